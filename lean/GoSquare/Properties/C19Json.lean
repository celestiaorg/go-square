import GoSquare.Proofs.Json
/-! # C19, JSON part — namespaces, shares and blobs survive their JSON encoding; acceptance through JSON

`Model/Json.lean` models `base64.StdEncoding` and the output of `encoding/json` for the three `MarshalJSON` methods
completely, and the three `UnmarshalJSON` methods on the canonical fragment of JSON (what the encoders emit, plus
members in any order, duplicates, `null`, explicit empty strings, numbers of any size). A document outside it the
model answers `outside`; those are covered by Go-side oracles only. -/
namespace GoSquare.C19
open GoSquare.Json

/-- **C19 (base64).** `DecodeString(EncodeToString(b))`. -/
theorem base64_roundtrip (b : Bytes) : b64Decode (b64Encode b) = some b := JsonProofs.b64_roundtrip b

/-- **C19 (JSON round trips).** `UnmarshalJSON` of the `MarshalJSON` of a value its constructor accepts. -/
theorem json_roundtrips :
    (∀ ns : Bytes, Ns.fromBytes ns = some ns → unmarshalNs (marshalNs ns) = .ok ns) ∧
    (∀ s : Bytes, s.length = 512 → unmarshalShare (marshalShare s) = .ok s) ∧
    (∀ b : Blob, ProtoBlob b → unmarshalBlob (marshalBlob b) = .ok b) :=
  ⟨fun ns h => by simp [unmarshalNs, marshalNs, JsonProofs.unmarshalBytes_jsonOfBytes, h],
    fun s h => by simp [unmarshalShare, marshalShare, JsonProofs.unmarshalBytes_jsonOfBytes, h],
    JsonProofs.blob_json_roundtrip⟩

/-- **C19 (acceptance through JSON).** Whatever `Blob.UnmarshalJSON` returns satisfies the acceptance predicate of
    `NewBlob`: no document of the modelled fragment produces any other blob. -/
theorem json_blob_accepted (doc : Bytes) (b : Blob) (h : unmarshalBlob doc = .ok b) :
    b.data ≠ [] ∧ Ns.validate b.ns = true ∧ Ns.version b.ns = 0 ∧
      ((b.ver = 0 ∧ b.signer = none) ∨ (b.ver = 1 ∧ ∃ s, b.signer = some s ∧ s.length = 20)) := by
  obtain ⟨pb, hpb⟩ := JsonProofs.unmarshalBlob_ok doc b h
  obtain ⟨_, _, ns, hns, hnew⟩ := fromProto_eq_some_iff.mp hpb
  obtain ⟨⟨hd, _, hver, hs⟩, rfl⟩ := Blob.new_eq_some_iff.mp hnew
  -- `NewNamespace` returns what it has validated
  obtain ⟨hval, rfl⟩ := Option.ite_some_none_eq_some.mp hns
  exact ⟨hd, hval, hver, hs⟩

/-- non-vacuity: a version-1 blob -/
def sampleBlob : Blob :=
  { ns := 0 :: (List.replicate 18 0 ++ [1, 2, 3, 4, 5, 6, 7, 8, 9, 10]), data := [1, 2, 3], ver := 1,
    signer := some (List.replicate 20 7) }
theorem sampleBlob_proto : ProtoBlob sampleBlob := by
  refine ⟨⟨⟨by decide, by decide, Or.inr rfl, ⟨?_, ?_⟩, by decide, by decide⟩, by decide, by decide, by decide⟩, by decide⟩
  · intro h; exact absurd h (by decide)
  · intro _; exact ⟨_, rfl, by decide⟩
example : unmarshalBlob (marshalBlob sampleBlob) = .ok sampleBlob :=
  JsonProofs.blob_json_roundtrip sampleBlob sampleBlob_proto

end GoSquare.C19
