import GoSquare.Proofs.C04Core
import GoSquare.Proofs.BlobRange
import GoSquare.Proofs.DeconstructParts
import GoSquare.Proofs.SquareParts
/-! # C04 — recorded blob share indexes are truthful and satisfy the alignment rule

The statements on the square are in `Proofs/C04Core.lean` (also namespace `GoSquare.C04`), the range
query in `Proofs/BlobRange.lean`. Here: the range query under the name of the property, and
`Square.WrappedPFBs`. -/
namespace GoSquare.C04
open Spec

/-- **C04 (the blob-range query returns exactly that range)**: `blobShareRange_spec`. -/
theorem blobShareRange_returns_the_range (dec : Bytes → Decoded) (hdec : DecValid dec) (txs : List Bytes) (max thr : Nat)
    (hsz : 478 * (max * max) < 4294967296) (b0 : Builder) (hb0 : Builder.newWithTxs dec max thr txs = .ok b0) :
    ∃ N bl, txs = N ++ bl ∧ (∀ r ∈ N, dec r = .normal) ∧ (∀ r ∈ bl, dec r = .blobTx (decB dec r)) ∧
      ∀ (p j : Nat) (raw : Bytes) (blob : Blob), bl[p]? = some raw → (decB dec raw).blobs[j]? = some blob →
        ∀ (sq : List Bytes) (b1 : Builder), b0.exportSquare = .ok (b1, sq) →
        ∃ k idx, Placed thr N (bl.map (decB dec)) k (newElement blob p j thr) idx ∧
          blobShareRange dec txs ((N.length + p : Nat) : Int) ((j : Nat) : Int) max thr =
            .ok (u32 idx, u32 idx + (sparseSeq blob).length) :=
  blobShareRange_spec dec hdec txs max thr hsz b0 hb0

/-- **C04 (the index is recorded in the square).** `Square.WrappedPFBs` returns the marshalled
    wrappers `patched thr N B` in which `recorded_index_is_truthful` locates every index. -/
theorem wrappedPFBs_are_the_recorded_wrappers (thr : Nat) (N : List Bytes) (B : List BlobTx) (ss : Nat)
    (hv : ∀ t ∈ B, ∀ bl ∈ t.blobs, bl.BlobValid) (hu : ∀ t ∈ B, ∀ bl ∈ t.blobs, UserNs bl.ns)
    (hB : B ≠ []) (hst2 : (unitStream ((patched thr N B).map (·.marshal))).length < 4294967296) :
    wrappedPFBs (squareOf thr N B ss) = .ok ((patched thr N B).map (·.marshal)) := by
  rw [squareOf_eq_parts, wrappedPFBs_parts _ _ _ (fun s hs => (compactSeq_shares _ compactNs_tx N s hs).2)
    (fun s hs => (compactSeq_shares _ compactNs_pfb _ s hs).2) (restOf_above thr N B ss hv hu)
    (fun h => hB ((pfbUnits_eq_nil_iff thr N B).mp ((compactSeq_eq_nil_iff _ _).mp h))),
    parseTxs_pfbShares thr N B hB hst2]

end GoSquare.C04
