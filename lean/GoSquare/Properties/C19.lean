import GoSquare.Proofs.ProtoMsg
/-! # C19 — blob, transaction-wrapper serialisations round-trip; blob acceptance

protobuf-go's wire codec is modelled (Model/Proto.lean: deterministic encoder, total decoder);
these theorems are about that model, which the PROTO correspondence stream compares with the
real library byte-for-byte on valid and malformed inputs. The round trips of the three messages and of
the API are in Proofs/ProtoMsg.lean; the JSON codecs are in Model/Json.lean and Properties/C19Json.lean. -/
namespace GoSquare.C19
open GoSquare.Proto

/-- **C19 (what `share.NewBlob` accepts).** `signer = none` is Go's nil. -/
theorem newBlob_accepts_iff (ns data : Bytes) (ver : Nat) (signer : Option Bytes) :
    (Blob.new ns data ver signer).isSome = true ↔
      data ≠ [] ∧ ns ≠ [] ∧ Ns.version ns = 0 ∧
      ((ver = 0 ∧ signer = none) ∨ (ver = 1 ∧ ∃ s, signer = some s ∧ s.length = 20)) := by
  simp only [Option.isSome_iff_exists, Blob.new_eq_some_iff, exists_and_left, exists_eq, and_true]

/-- **C19 (what `share.NewBlobFromProto` accepts).** An empty `signer` field is no signer. -/
theorem blobFromProto_accepts_iff (pb : BlobProto) :
    (Blob.fromProto pb).isSome = true ↔
      pb.namespaceVersion ≤ 255 ∧ pb.shareVersion ≤ 127 ∧
      ∃ ns, Ns.new pb.namespaceVersion.toUInt8 pb.namespaceId = some ns ∧
        (Blob.new ns pb.data pb.shareVersion (if pb.signer.length = 0 then none else some pb.signer)).isSome = true := by
  simp only [Option.isSome_iff_exists, fromProto_eq_some_iff]
  constructor
  · rintro ⟨b, h1, h2, ns, hn, hb⟩; exact ⟨h1, h2, ns, hn, b, hb⟩
  · rintro ⟨h1, h2, ns, hn, b, hb⟩; exact ⟨b, h1, h2, ns, hn, hb⟩

/-- **C19 (a blob transaction is never recognised as an index wrapper).** `tx.UnmarshalIndexWrapper` on what
    `tx.MarshalBlobTx` returns. -/
theorem blobTx_is_not_indexWrapper (tx : Bytes) (blobs : List Blob) (bytes : Bytes)
    (hm : marshalBlobTx tx blobs = some bytes)
    (hs : SmallBTx { tx, blobs := blobs.map Blob.toProto, typeId := blobTxTypeId }) :
    unmarshalIndexWrapper bytes = none := by
  obtain ⟨-, -, rfl⟩ := marshalBlobTx_eq_some_iff.mp hm
  unfold unmarshalIndexWrapper IndexWrapper.unmarshal
  rw [btx_parse _ hs]
  -- whatever the first fields do, the last one sets type_id to "BLOB"
  split
  · rfl
  · next w hw =>
    obtain ⟨x, hx⟩ := foldlM_concat_some (l := _ ++ _) (x := (3, Val.bytes blobTxTypeId)) hw
    cases hx
    rfl

/-- **C19 (an index wrapper is never recognised as a blob transaction).** `tx.UnmarshalBlobTx` on what
    `tx.MarshalIndexWrapper` returns. -/
theorem indexWrapper_is_not_blobTx (tx : Bytes) (idx : List Nat) (h1 : tx.length < 2 ^ 63)
    (h2 : ∀ v ∈ idx, v < 4294967296) (h3 : ((idx.map uvarint).flatten).length < 2 ^ 63) :
    unmarshalBlobTx (marshalIndexWrapper tx idx) = .normal := by
  unfold unmarshalBlobTx marshalIndexWrapper BlobTxProto.unmarshal
  rw [iw_parse _ (smallIW_new h1 h2 h3)]
  split
  · rfl
  · next w hw =>
    obtain ⟨x, hx⟩ := foldlM_concat_some (l := _ ++ _) (x := (3, Val.bytes indexWrapperTypeId)) hw
    cases hx
    rfl

/-- **C19 (blob protobuf round trip).** `share.UnmarshalBlob(b.Marshal())`. -/
theorem blob_roundtrip (b : Blob) (hb : ProtoBlob b) (hs : SmallBlob b.toProto) : Blob.unmarshal b.marshal = some b := by
  unfold Blob.unmarshal Blob.marshal
  rw [blobProto_roundtrip _ hs]
  exact fromProto_toProto b hb

/-- non-vacuity: an index wrapper with two share indexes -/
example : unmarshalIndexWrapper (marshalIndexWrapper [1, 2, 3] [16384, 7]) = some (newIndexWrapper [1, 2, 3] [16384, 7]) :=
  unmarshalIndexWrapper_marshal _ _ (by decide) (by decide) (by simp [uvarint])

end GoSquare.C19
