import GoSquare.Proofs.C20Core
import GoSquare.Proofs.Tiling
import GoSquare.Proofs.BuildSquare
/-! # C20 — namespace range lookup and sequence parsing agree with the square

`Proofs/C20Core.lean` (also namespace `GoSquare.C20`): on any namespace-ordered share list the lookup
returns exactly the run of the queried namespace, `(0,0)` when absent. `Proofs/Tiling.lean` and here:
`ParseShares` tiles every constructed square exactly (consecutive sequences, each of one namespace
and of the length its first share declares) and with padding ignored yields the transaction
sequence, the pay-for-blob sequence and one sequence per blob in square order, with the blob's data
as payload. -/
namespace GoSquare.C20
open Tiling

/-- **C20 (sequence parsing)** of every `sq` with `IsSquareOf dec thr N bl sq`, which is what `Build`
    and `Construct` return (`Tiling.parseShares_build`, `Tiling.parseShares_construct`). `Good` is
    spelled out by `Tiling.Good.spelled`. -/
theorem parseShares_tiles_constructed_squares (dec : Bytes → Decoded) (hdec : DecValid dec) (max thr : Nat)
    (hsz : 478 * (max * max) < 4294967296) (N bl : List Bytes)
    (hblb : ∀ r ∈ bl, dec r = .blobTx (decB dec r)) (hfit : closedEstimate thr N (bl.map (decB dec)) ≤ max * max)
    (sq : List Bytes) (h : IsSquareOf dec thr N bl sq) :
    parseShares sq true = .ok (Tiling.dataSeqs thr N (bl.map (decB dec))) ∧
    ∃ qs, parseShares sq false = .ok qs ∧ (qs.map (·.shares)).flatten = sq ∧ (∀ q ∈ qs, Tiling.Good q) ∧
      qs.filter (fun q => !q.isPadding) = Tiling.dataSeqs thr N (bl.map (decB dec)) := by
  obtain ⟨hsq, _, _, g4⟩ := h.closedForm
  obtain ⟨hst1, hst2⟩ := streams_lt thr N _ _ hfit hsz g4
  rw [hsq]
  exact (tiled_squareOf thr N _ _ (kept_blobs hdec hblb) hst1 hst2).parseShares

/-- **C20 (payloads).** `Sequence.RawData` of the shares of a blob-valid blob is the blob's data. -/
theorem blob_sequence_payload (b : Blob) (hb : b.BlobValid) : (Tiling.blobSeq b).rawData = .ok b.data :=
  (carries_sparse b hb).rawData

end GoSquare.C20

namespace GoSquare.Tiling
open Spec

/-- (C20) the payloads (`RawData`) of the data sequences of `squareOf` -/
theorem dataSeqs_payloads (thr : Nat) (N : List Bytes) (B : List BlobTx)
    (hv : ∀ t ∈ B, ∀ bl ∈ t.blobs, bl.BlobValid)
    (hst1 : (unitStream N).length < 4294967296)
    (hst2 : (unitStream ((patched thr N B).map (·.marshal))).length < 4294967296) :
    (N ≠ [] → (compactSeqRec txNamespace N).rawData = .ok (unitStream N)) ∧
    (B ≠ [] → (compactSeqRec payForBlobNamespace ((patched thr N B).map (·.marshal))).rawData =
      .ok (unitStream ((patched thr N B).map (·.marshal)))) ∧
    ∀ e ∈ sortedElems thr B, (blobSeq e.blob).rawData = .ok e.blob.data :=
  ⟨fun hN => (carries_compact _ compactNs_tx N hN hst1).rawData,
   fun hB => (carries_compact _ compactNs_pfb _ (fun h => hB ((pfbUnits_eq_nil_iff thr N B).mp h)) hst2).rawData,
   fun e he => C20.blob_sequence_payload e.blob (sortedElems_blob thr B hv e he)⟩

/-- **C20 (sequence parsing) on every square `Construct` returns**, `txs` being ordinary then blob
    transactions `N ++ bl`; premises `DecValid dec` and `478 * max² < 2^32`. -/
theorem parseShares_construct (dec : Bytes → Decoded) (hdec : DecValid dec) (txs : List Bytes) (max thr : Nat)
    (hsz : 478 * (max * max) < 4294967296) (sq : List Bytes) (h : construct dec txs max thr = .ok sq) :
    ∃ N bl, txs = N ++ bl ∧ (∀ r ∈ N, dec r = .normal) ∧ (∀ r ∈ bl, dec r = .blobTx (decB dec r)) ∧
      parseShares sq true = .ok (dataSeqs thr N (bl.map (decB dec))) ∧
      ∃ qs, parseShares sq false = .ok qs ∧ (qs.map (·.shares)).flatten = sq ∧ (∀ q ∈ qs, Good q) ∧
        qs.filter (fun q => !q.isPadding) = dataSeqs thr N (bl.map (decB dec)) := by
  obtain ⟨N, bl, e, hn, hbl, hfit, hsq⟩ := construct_square dec hdec txs max thr hsz sq h
  exact ⟨N, bl, e, hn, hbl, C20.parseShares_tiles_constructed_squares dec hdec max thr hsz N bl hbl hfit sq hsq⟩

/-- **C20 (sequence parsing) on every square `Build` returns**, `N ++ bl` being the kept list; same
    premises. -/
theorem parseShares_build (dec : Bytes → Decoded) (hdec : DecValid dec) (txs : List Bytes) (max thr : Nat)
    (hsz : 478 * (max * max) < 4294967296) (sq kept : List Bytes) (h : build dec txs max thr = .ok (sq, kept)) :
    ∃ N bl, kept = N ++ bl ∧ (∀ r ∈ N, dec r = .normal) ∧ (∀ r ∈ bl, dec r = .blobTx (decB dec r)) ∧
      parseShares sq true = .ok (dataSeqs thr N (bl.map (decB dec))) ∧
      ∃ qs, parseShares sq false = .ok qs ∧ (qs.map (·.shares)).flatten = sq ∧ (∀ q ∈ qs, Good q) ∧
        qs.filter (fun q => !q.isPadding) = dataSeqs thr N (bl.map (decB dec)) := by
  obtain ⟨N, bl, e, hn, hbl, hfit, hsq⟩ := build_square dec hdec txs max thr hsz sq kept h
  exact ⟨N, bl, e, hn, hbl, C20.parseShares_tiles_constructed_squares dec hdec max thr hsz N bl hbl hfit sq hsq⟩

end GoSquare.Tiling
