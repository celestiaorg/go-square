import GoSquare.Proofs.DeconstructSquare
import GoSquare.Proofs.DeconstructParts
import GoSquare.Properties.C03
import GoSquare.Proofs.SquareParts
/-! # C02 — constructing then deconstructing a square returns the original transactions

For every ordered list of non-empty ordinary transactions followed by canonically encoded blob
transactions (blob-valid user namespaces, share versions 0 and 1; fewer than 2^32 blobs per
transaction, each below 2^32 bytes; transactions below 2^63 bytes)
that `Construct` accepts: `Deconstruct (Construct txs) = txs`, byte for byte, in order. The empty
list maps to the one-share tail-padding square and back to the empty list. -/
namespace GoSquare.C02
open Spec

/-- the square is transaction shares, pay-for-blob shares and shares of larger namespaces
    (`deconstruct_parts`); the two compact sequences parse back to `N` and to the wrappers (C09);
    every wrapper, with its blob transaction, is what the loop of `Deconstruct` expects
    (`pfbOK_of_patched`) -/
theorem deconstruct_squareOf (dec : Bytes → Decoded) (pfbDec : Bytes → Res (List Nat)) (thr : Nat) (N bl : List Bytes)
    (ss : Nat) (hv : ∀ t ∈ bl.map (decB dec), ∀ b ∈ t.blobs, b.BlobValid)
    (hu : ∀ t ∈ bl.map (decB dec), ∀ b ∈ t.blobs, UserNs b.ns)
    (hN : C09.NonEmptyUnits N) (hbl : ∀ r ∈ bl, CanonBlobTx dec pfbDec r) (hne : ¬ (N = [] ∧ bl = []))
    (g1 : (compactSeq txNamespace N).length +
        (compactSeq payForBlobNamespace ((patched thr N (bl.map (decB dec))).map (·.marshal))).length ≤
        firstIdx thr (startOf N (bl.map (decB dec))) (sortedElems thr (bl.map (decB dec))))
    (hst1 : (unitStream N).length < 4294967296)
    (hst2 : (unitStream ((patched thr N (bl.map (decB dec))).map (·.marshal))).length < 4294967296)
    (hlen : (squareOf thr N (bl.map (decB dec)) ss).length < 4294967296) :
    deconstruct (squareOf thr N (bl.map (decB dec)) ss) pfbDec = .ok (N ++ bl) := by
  have epfb : compactSeq payForBlobNamespace ((patched thr N (bl.map (decB dec))).map (·.marshal)) = [] ↔ bl = [] := by
    rw [compactSeq_eq_nil_iff, pfbUnits_eq_nil_iff, List.map_eq_nil_iff]
  rw [squareOf_eq_parts, deconstruct_parts _ _ _ pfbDec (fun s hs => (compactSeq_shares _ compactNs_tx N s hs).2)
    (fun s hs => (compactSeq_shares _ compactNs_pfb _ s hs).2) (restOf_above thr N _ _ hv hu)
    (fun hc => hne ⟨(compactSeq_eq_nil_iff _ _).mp hc.1, epfb.mp hc.2⟩), ← squareOf_eq_parts]
  have hptx : parseTxs (compactSeq txNamespace N) = .ok N := by
    by_cases hN0 : N = []
    · subst hN0; rfl
    · exact C09.parse_spec txNamespace compactNs_tx N hN0 hN hst1
  by_cases hb0 : bl = []
  · rw [if_pos (epfb.mpr hb0), hptx, hb0, List.append_nil]
  · rw [if_neg (fun hc => hb0 (epfb.mp hc)), hptx, parseTxs_pfbShares thr N _ (by simpa using hb0) hst2,
      res_bind_ok, res_bind_ok,
      deconstructPfbs_of_forall _ pfbDec _ bl (fun r => (decB dec r).blobs) (by rw [patched_length, List.length_map])
        (fun p iw raw hiw hp => pfbOK_of_patched dec pfbDec thr N bl ss hv g1 hlen p raw iw hp hiw
          (hbl _ (List.mem_of_getElem? hp)))]
    rfl

theorem deconstruct_isSquareOf (dec : Bytes → Decoded) (pfbDec : Bytes → Res (List Nat)) (hdec : DecValid dec)
    (hus : C03.DecUser dec) (max thr : Nat) (hmax : Nat.isPowerOfTwo max) (hsz : 478 * (max * max) < 4294967296)
    (N bl : List Bytes) (hN : C09.NonEmptyUnits N) (hbl : ∀ r ∈ bl, CanonBlobTx dec pfbDec r)
    (hfit : closedEstimate thr N (bl.map (decB dec)) ≤ max * max)
    (sq : List Bytes) (h : IsSquareOf dec thr N bl sq) : deconstruct sq pfbDec = .ok (N ++ bl) := by
  have hblb : ∀ r ∈ bl, dec r = .blobTx (decB dec r) := fun r hr => (hbl r hr).isBlobTx
  rcases h with ⟨hN0, hb0, hsq⟩ | ⟨hne, hsq, g1, g2, g4⟩
  · rw [hsq, hN0, hb0]
    exact deconstruct_empty pfbDec
  · obtain ⟨hst1, hst2⟩ := streams_lt thr N _ _ hfit hsz g4
    have hsqlen := (side_of_fit thr N _ max hmax hfit hsz).2.2.2
    rw [← squareOf_length thr N _ _ g1 g2] at hsqlen
    rw [hsq]
    exact deconstruct_squareOf dec pfbDec thr N bl _ (kept_blobs hdec hblb) (kept_blobs hus hblb) hN hbl hne
      g1 hst1 hst2 hsqlen

/-- **C02.** `Deconstruct (Construct txs) = txs`. -/
theorem deconstruct_construct (dec : Bytes → Decoded) (pfbDec : Bytes → Res (List Nat)) (hdec : DecValid dec)
    (hus : C03.DecUser dec) (txs : List Bytes) (max thr : Nat) (hmax : Nat.isPowerOfTwo max)
    (hsz : 478 * (max * max) < 4294967296)
    (hord : ∀ t ∈ txs, dec t = .normal → t ≠ [] ∧ t.length < 2 ^ 63)
    (hcanon : ∀ t ∈ txs, dec t = .blobTx (decB dec t) → CanonBlobTx dec pfbDec t)
    (sq : List Bytes) (h : construct dec txs max thr = .ok sq) : deconstruct sq pfbDec = .ok txs := by
  obtain ⟨N, bl, e, hN, hbl, hfit, hsq⟩ := construct_square dec hdec txs max thr hsz sq h
  rw [e]
  exact deconstruct_isSquareOf dec pfbDec hdec hus max thr hmax hsz N bl
    (fun u hu => hord u (by rw [e]; simp [hu]) (hN u hu))
    (fun r hr => hcanon r (by rw [e]; simp [hr]) (hbl r hr)) hfit sq hsq

/-- **C02 (empty list)**, stated at `max = 4`, `thr = 64`. -/
theorem empty_roundtrip (dec : Bytes → Decoded) (pfbDec : Bytes → Res (List Nat)) :
    construct dec [] 4 64 = .ok [paddingShare tailPaddingNamespace 0] ∧
    deconstruct [paddingShare tailPaddingNamespace 0] pfbDec = .ok [] := by
  refine ⟨?_, deconstruct_empty pfbDec⟩
  have hnew : Builder.newWithTxs dec 4 64 [] = .ok { maxSquareSize := 4, thr := 64 } := rfl
  have hexp : Builder.exportSquare { maxSquareSize := 4, thr := 64 } =
      .ok ({ maxSquareSize := 4, thr := 64 }, [paddingShare tailPaddingNamespace 0]) := by
    exact congrArg (fun r => r >>= _) (exportCore_empty 64 _ [] [] [])
  unfold construct
  rw [hnew, res_bind_ok, hexp]
  rfl

/-- non-vacuity of `CanonBlobTx`: what `MarshalBlobTx` produces is canonical for the modelled
    `UnmarshalBlobTx`, provided the PFB decoder reports the blob sizes -/
theorem canon_of_marshal (pfbDec : Bytes → Res (List Nat)) (tx : Bytes) (blobs : List Blob) (hne : blobs ≠ [])
    (hb : ∀ b ∈ blobs, C19.ProtoBlob b)
    (hs : C19.SmallBTx { tx, blobs := blobs.map Blob.toProto, typeId := blobTxTypeId })
    (hsz : pfbDec tx = .ok (blobs.map (·.data.length))) (hcount : blobs.length < 4294967296) :
    ∃ raw, marshalBlobTx tx blobs = some raw ∧ CanonBlobTx unmarshalBlobTx pfbDec raw := by
  obtain ⟨raw, hm, hu⟩ := C19.unmarshalBlobTx_marshal tx blobs hne hb hs
  have hd : decB unmarshalBlobTx raw = { tx, blobs } := by simp [decB, hu]
  exact ⟨raw, hm, ⟨by rw [hd]; exact hu, by rw [hd]; exact hne, by rw [hd]; exact hsz, by rw [hd]; exact hm,
    by rw [hd]; exact hs.tx, by rw [hd]; exact hcount⟩⟩

end GoSquare.C02
