import GoSquare.Proofs.C06Core
import GoSquare.Proofs.ExportTotal
import GoSquare.Proofs.BuildSquare
/-! # C06 — capacity accounting never under-counts; greedy building never fails

`Proofs/C06Core.lean` (namespace `GoSquare.C06`): the estimate invariant over every append
history, refusal iff, refused = observably unchanged, minimal side ≤ max, padding ≤ reservation.
`Proofs/ExportTotal.lean`: none of `Export`'s defensive checks can fire on a reachable state
(maxSquareSize ≤ 512) and the occupied shares never exceed the estimate. -/
namespace GoSquare.C06
open Spec

/-- **C06 (greedy building returns no error).** For every input whose blob transactions decode (to
    blob-valid blobs) and every valid configuration with maxSquareSize ≤ 512. -/
theorem build_returns_no_error (dec : Bytes → Decoded) (hdec : DecValid dec) (txs : List Bytes)
    (hall : ∀ t ∈ txs, dec t ≠ .badBlobTx) (max thr : Nat) (ht : 1 ≤ thr)
    (hcfg : isPowerOfTwo max = true) (hmaxp : Nat.isPowerOfTwo max) (hmax : max ≤ 512) :
    ∃ sq kept, build dec txs max thr = .ok (sq, kept) := by
  have h0 : max ≠ 0 := by
    obtain ⟨k, rfl⟩ := hmaxp
    exact Nat.ne_of_gt (Nat.two_pow_pos k)
  have hnew : Builder.new max thr = .ok { maxSquareSize := max, thr := thr } :=
    Builder.new_eq_ok.mpr ⟨h0, hcfg, rfl⟩
  obtain ⟨⟨b, n, bl⟩, hloop⟩ := buildLoop_total dec txs { maxSquareSize := max, thr := thr } [] [] hall
  obtain ⟨⟨hk, hbthr, hbmax, _, hbl⟩, _, _⟩ := KeptRaw.of_loop hnew hloop
  obtain ⟨b', sq, hexp⟩ := ExportTotal.export_succeeds b n (bl.map (decB dec)) hk
    (kept_blobs hdec hbl) (by rw [hbthr]; exact ht) (by rw [hbmax]; exact hmaxp) (by rw [hbmax]; exact hmax)
  refine ⟨sq, n ++ bl, ?_⟩
  unfold build
  simp only [hnew, bind, Except.bind, hloop, hexp]

/-- **C06 (Export of every reachable state succeeds, and the estimate covers what is occupied).**
    After ANY history that kept `N` and `B`; everything after the occupied part is tail padding. -/
theorem export_within_estimate (b : Builder) (N : List Bytes) (B : List BlobTx) (hk : Kept b N B)
    (hv : ∀ t ∈ B, ∀ bl ∈ t.blobs, bl.BlobValid) (ht : 1 ≤ b.thr)
    (hmaxp : Nat.isPowerOfTwo b.maxSquareSize) (hmax : b.maxSquareSize ≤ 512) :
    ∃ b' sq, b.exportSquare = .ok (b', sq) ∧
      ((N = [] ∧ B = [] ∧ sq = [paddingShare tailPaddingNamespace 0] ∧ b' = b) ∨
       (¬ (N = [] ∧ B = []) ∧
        let ss := blobMinSquareSize (closedEstimate b.thr N B)
        let occupied := firstIdx b.thr (startOf N B) (sortedElems b.thr B) +
          (region b.thr (startOf N B) none (sortedElems b.thr B)).length
        sq = squareOf b.thr N B ss ∧ occupied ≤ closedEstimate b.thr N B ∧
        closedEstimate b.thr N B ≤ ss * ss ∧ ss ≤ b.maxSquareSize ∧
        sq.drop occupied = List.replicate (ss * ss - occupied) (paddingShare tailPaddingNamespace 0))) := by
  obtain ⟨b', sq, h⟩ := ExportTotal.export_succeeds b N B hk hv ht hmaxp hmax
  have h1 : b.maxSquareSize * b.maxSquareSize ≤ 512 * 512 := Nat.mul_le_mul hmax hmax
  refine ⟨b', sq, h, ?_⟩
  rcases export_kept b N B hk hv (by omega) b' sq h with hemp | ⟨hne, hsq, _, _, _, _, g1, _, _⟩
  · exact Or.inl hemp
  · obtain ⟨_, hss, _, hle⟩ := side_is_minimal_and_bounded (closedEstimate b.thr N B) b.maxSquareSize
      (closedEstimate_pos b.thr N B hne) (Nat.le_trans (Nat.le_trans hk.fit h1) (by decide)) hmaxp hk.fit
    refine Or.inr ⟨hne, hsq, ExportTotal.occupied_le_estimate b.thr N B hv, hss, hle, ?_⟩
    -- everything before the tail padding has exactly `occupied` shares
    rw [hsq]
    exact List.drop_left' (by simp only [List.length_append, List.length_replicate]; omega)

end GoSquare.C06
