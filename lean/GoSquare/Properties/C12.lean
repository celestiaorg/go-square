import GoSquare.Proofs.C12Core
import GoSquare.Proofs.TxRange
import GoSquare.Properties.C11
import GoSquare.Proofs.BlobRange
/-! # C12 — transaction and blob share ranges are exact

`Proofs/C12Core.lean` (also namespace `GoSquare.C12`): the splitter's per-transaction range is
exactly the shares holding a byte of the transaction's length-prefixed encoding.
`Proofs/TxRange.lean`: `FindTxShareRange` / `square.TxShareRange` report exactly that range, for
ordinary and for wrapped pay-for-blob transactions; out-of-range indexes are errors. Here: parsing
just the reported shares yields the transaction (C11). Blob ranges: `Proofs/BlobRange.lean` (C04). -/
namespace GoSquare.C12
open Builder Spec

/-- **C12 (the reported range is the set of shares holding a byte of the unit).** `X` is the unit's
    offset in the stream, `len ≥ 1` its length, `shareOf` the share of a stream byte. -/
theorem range_is_the_set_of_shares (X len k : Nat) (hlen : 1 ≤ len) :
    (shareOf X ≤ k ∧ k < shareOf (X + len - 1) + 1) ↔ ∃ off, X ≤ off ∧ off < X + len ∧ shareOf off = k := by
  constructor
  · rintro ⟨h1, h2⟩
    simp only [shareOf_eq] at h1 h2 ⊢
    by_cases hk : k = (X + 4) / 478
    · exact ⟨X, Nat.le_refl _, by omega, hk.symm⟩
    · -- the first byte of share `k`
      exact ⟨478 * k - 4, by omega⟩
  · rintro ⟨off, h1, h2, rfl⟩
    exact ⟨shareOf_mono h1, Nat.lt_succ_of_le (shareOf_mono (Nat.le_sub_one_of_lt h2))⟩

/-- **C12 (`FindTxShareRange` on an exported builder).** Wrapped PFB `i` is asked for as
    `txs.length + i`; `T` is the number of shares of the transaction sequence. -/
theorem findTxShareRange_is_exact (b : Builder) (hd : b.done = true) (i : Nat) :
    (∀ (hi : i < b.txs.length),
      b.findTxShareRange (i : Int) = .ok (b,
        shareOf (TxRange.before (b.txs.map List.length) i),
        shareOf (TxRange.before (b.txs.map List.length) i + TxRange.unitLen (b.txs[i]).length - 1) + 1)) ∧
    (∀ (hi : i < b.pfbs.length),
      let T := compactSharesNeeded (TxRange.before (b.txs.map List.length) b.txs.length)
      b.findTxShareRange ((b.txs.length + i : Nat) : Int) = .ok (b,
        T + shareOf (TxRange.before (b.pfbs.map (·.size)) i),
        T + shareOf (TxRange.before (b.pfbs.map (·.size)) i + TxRange.unitLen (b.pfbs[i]).size - 1) + 1)) :=
  TxRange.findTxShareRange_exact_of_ensure b b (ensureExported_done b hd) rfl rfl i

/-- **C12 (out-of-range indexes yield errors)**: on an exported builder, indexes below 0 or from
    `txs.length + pfbs.length` on. -/
theorem findTxShareRange_rejects (b : Builder) (hd : b.done = true) (i : Int)
    (h : i < 0 ∨ (b.txs.length + b.pfbs.length : Int) ≤ i) : b.findTxShareRange i = .error .err :=
  TxRange.findTxShareRange_error b b (ensureExported_done b hd) i h

/-- **C12 (parsing just the reported shares yields the transaction).** For unit `i` of a compact
    sequence of non-empty units, stream below 2^32 bytes, `ParseTxs` on the shares `[lo, hi')` alone
    returns a list containing the unit (`C11.parse_subrange`). -/
theorem parsing_the_range_yields_the_tx (ns : Bytes) (hc : CompactNs ns) (units : List Bytes) (hne : units ≠ [])
    (hu : C09.NonEmptyUnits units) (hlt : (unitStream units).length < 4294967296) (i : Nat) (hi : i < units.length) :
    let S := (unitStream (units.take i)).length
    let E := S + (uvarintLen (units[i]).length + (units[i]).length)
    let lo := shareOf S
    let hi' := shareOf (E - 1) + 1
    lo < hi' ∧ hi' ≤ (compactSeq ns units).length ∧
    ∃ r, parseTxs (((compactSeq ns units).drop lo).take (hi' - lo)) = .ok r ∧ units[i] ∈ r := by
  intro S E lo hi'
  have hlpos := uvarintLen_pos (units[i]).length
  have hT : E ≤ (unitStream units).length := by
    have hm := unitStream_length_mono (units.take (i + 1)) (units.drop (i + 1))
    rw [List.take_append_drop, List.take_succ_eq_append_getElem hi, unitStream_append, List.length_append,
      List.length_append, uvarint_length] at hm
    exact hm
  have hlo : lo < hi' := Nat.lt_succ_of_le (shareOf_mono (show S ≤ E - 1 by omega))
  have hhi : hi' ≤ (compactSeq ns units).length := by
    rw [compactSeq_length, sharesNeeded_eq_shareOf_last _ (by omega)]
    exact Nat.succ_le_succ (shareOf_mono (Nat.sub_le_sub_right hT 1))
  refine ⟨hlo, hhi, _, C11.parse_subrange ns hc units hne hu hlt lo hi' hlo hhi, ?_⟩
  -- the unit begins at or after the first payload byte of its first share and ends at or before
  -- the last payload byte of its last share
  have h1 : compactOff lo ≤ S := (posOf_fst_off S).1
  have h2 : E - 1 < compactOff hi' := (posOf_fst_off (E - 1)).2
  have := C11.mem_within (compactOff lo) (compactOff hi') (units[i]'hi) (units.drop (i + 1)) (units.take i) 0
    (by omega) (by omega)
  rwa [List.getElem_cons_drop, List.take_append_drop] at this

end GoSquare.C12
