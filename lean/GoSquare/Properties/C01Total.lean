import GoSquare.Properties.C01
import GoSquare.Proofs.DecLocal
/-! # C01, unconditional form

`C01.build_then_construct` starts from "`Build` returned a square"; `C06.build_returns_no_error`
shows that it always does when every blob transaction decodes into blob-valid blobs
(`maxSquareSize ≤ 512`). -/
namespace GoSquare.C01

/-- **C01 (no premise about `Build` succeeding).** If no transaction of the list is a blob transaction
    that fails to decode (`badBlobTx`), the blobs decoded from the list are blob-valid (`DecValidOn`) and
    `max ≤ 512` is a power of two, then `Build` succeeds and `Construct` of the kept list returns the same square. -/
theorem build_and_construct_agree (dec : Bytes → Decoded) (txs : List Bytes) (hdec : DecLocal.DecValidOn dec txs)
    (hall : ∀ t ∈ txs, dec t ≠ .badBlobTx) (max thr : Nat) (ht : 1 ≤ thr)
    (hcfg : isPowerOfTwo max = true) (hmaxp : Nat.isPowerOfTwo max) (hmax : max ≤ 512) :
    ∃ sq kept, build dec txs max thr = .ok (sq, kept) ∧ construct dec kept max thr = .ok sq ∧
      ∃ kn kb, kept = kn ++ kb ∧
        kn.Sublist (txs.filter (fun t => dec t == .normal)) ∧ kb.Sublist (txs.filter (fun t => dec t != .normal)) ∧
        (∀ r ∈ kn, dec r = .normal) ∧ (∀ r ∈ kb, ∃ bt, dec r = .blobTx bt) := by
  obtain ⟨sq, kept, h⟩ := DecLocal.build_returns_no_error_on dec txs hdec hall max thr ht hcfg hmaxp hmax
  obtain ⟨hk, hc⟩ := build_then_construct dec txs max thr sq kept h
  exact ⟨sq, kept, h, hc, hk⟩

/-- with the modelled real decoder `tx.UnmarshalBlobTx`; `MarshalledValid`: the `MarshalBlobTx` of valid
    blobs in user namespaces -/
theorem build_and_construct_agree_unmarshalBlobTx (txs : List Bytes)
    (h : ∀ t ∈ txs, unmarshalBlobTx t = .normal ∨ DecLocal.MarshalledValid t) (max thr : Nat) (ht : 1 ≤ thr)
    (hcfg : isPowerOfTwo max = true) (hmaxp : Nat.isPowerOfTwo max) (hmax : max ≤ 512) :
    ∃ sq kept, build unmarshalBlobTx txs max thr = .ok (sq, kept) ∧ construct unmarshalBlobTx kept max thr = .ok sq := by
  obtain ⟨h1, _, h3⟩ := DecLocal.decOn_unmarshalBlobTx txs h
  obtain ⟨sq, kept, hb, hc, _⟩ := build_and_construct_agree unmarshalBlobTx txs h1 h3 max thr ht hcfg hmaxp hmax
  exact ⟨sq, kept, hb, hc⟩

end GoSquare.C01
