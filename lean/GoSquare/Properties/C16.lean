import GoSquare.Proofs.Bytes
import GoSquare.Model.Builder
/-! # C16 — decoders are total: malformed input yields an error, never a panic

The decoder entry points are modelled panic-aware: every data-dependent Go slice expression is a checked `slice` /
`sliceFrom` that returns `.error .panic` when Go would panic, and `parseRawData`, the one loop that is not a
recursion over its input list, runs on fuel whose exhaustion is also `.panic`. That outcome is unreachable
(`NoPanic`) for ANY list of 512-byte shares. protobuf-go and encoding/json are modelled as total functions (trusted
not to panic). `NoPanic` is closed under the constructs the decoders are written with, so a proof follows the
decoder's text and has content only at its slice expressions and its fuel. -/
namespace GoSquare.C16

def NoPanic {α} (r : Res α) : Prop := r ≠ .error .panic

theorem noPanic_ok {α} {v : α} : NoPanic (.ok v : Res α) := nofun
theorem noPanic_err {α} : NoPanic (.error .err : Res α) := nofun

theorem noPanic_bind {α β} {r : Res α} {f : α → Res β} (h1 : NoPanic r) (h2 : ∀ v, r = .ok v → NoPanic (f v)) :
    NoPanic (r >>= f) := by
  cases r with
  | ok v => exact h2 v rfl
  | error e =>
    cases e with
    | err => exact noPanic_err
    | panic => exact absurd rfl h1

theorem noPanic_map {α β} {r : Res α} {g : α → β} (h : NoPanic r) : NoPanic (r >>= fun v => .ok (g v)) :=
  noPanic_bind h fun _ _ => noPanic_ok

/-- With `noPanic_err` for `ha` this also fits `if c then throw .err >>= jp else jp ()`, the shape `do` gives
    `if c { return err }`. -/
theorem noPanic_ite {c : Prop} [Decidable c] {β} {a b : Res β} (ha : NoPanic a) (hb : ¬ c → NoPanic b) :
    NoPanic (if c then a else b) := by
  split
  · exact ha
  · exact hb ‹_›

theorem noPanic_mapM {α β} {f : α → Res β} (hf : ∀ a, NoPanic (f a)) (l : List α) : NoPanic (l.mapM f) := by
  induction l with
  | nil => exact noPanic_ok
  | cons a l ih =>
    rw [List.mapM_cons]
    exact noPanic_bind (hf a) fun _ _ => noPanic_map ih

theorem noPanic_slice {α} {s : List α} {a b : Nat} (h : a ≤ b ∧ b ≤ s.length) : NoPanic (slice s a b) := by
  rw [slice, if_pos h]
  exact noPanic_ok
theorem noPanic_sliceFrom {α} {s : List α} {a : Nat} (h : a ≤ s.length) : NoPanic (sliceFrom s a) := by
  rw [sliceFrom, if_pos h]
  exact noPanic_ok

/-- `hf` is told that the elements are elements of `s`: this carries `∀ x ∈ s, x.length = 512` to a sub-list -/
theorem noPanic_slice_bind {α β} {s : List α} {a b : Nat} {f : List α → Res β} (hb : a ≤ b ∧ b ≤ s.length)
    (hf : ∀ v, (∀ x ∈ v, x ∈ s) → NoPanic (f v)) : NoPanic (slice s a b >>= f) := by
  rw [slice, if_pos hb]
  exact hf _ fun x hx => List.mem_of_mem_drop (List.mem_of_mem_take hx)

/-- **C16 (parseDelimiter).** No panic on any input; a non-zero unit length means at least one byte was consumed. -/
theorem parseDelimiter_spec (input : Bytes) :
    NoPanic (parseDelimiter input) ∧
    ∀ rest n, parseDelimiter input = .ok (rest, n) → n ≠ 0 → rest.length + 1 ≤ input.length := by
  unfold parseDelimiter
  split
  · exact ⟨noPanic_ok, fun rest n h hn => by cases h; exact absurd rfl hn⟩
  · dsimp only
    split
    · exact ⟨noPanic_err, nofun⟩
    · next v c hr =>
      split
      · exact ⟨noPanic_ok, fun rest n h hn => by cases h; exact absurd rfl hn⟩
      · -- the canonical varint of the value read is no longer than what was read, which lay inside the input
        have hb := readUvarintAux_bound _ 0 0 v c (by decide) hr
        have hvl : uvarintLen v ≤ c := uvarintLen_le_of_lt c v hb.1 (by omega)
        have hle : uvarintLen v ≤ input.length := by omega
        have hpos := uvarintLen_pos v
        rw [sliceFrom, if_pos hle]
        exact ⟨noPanic_ok, fun rest n h _ => by cases h; simp only [List.length_drop]; omega⟩

theorem parseRawData_noPanic {fuel : Nat} {raw : Bytes} {units : List Bytes} (h : raw.length + 1 ≤ fuel) :
    NoPanic (parseRawData fuel raw units) := by
  fun_induction parseRawData fuel raw units with
  | case1 => omega
  | case2 fuel raw units ih =>
    obtain ⟨hnp, hlen⟩ := parseDelimiter_spec raw
    refine noPanic_bind hnp fun p hp => noPanic_ite noPanic_ok fun hz => noPanic_ite noPanic_ok fun _ => ?_
    -- a unit of non-zero length was read, so the delimiter took at least one byte: the fuel lasts
    have := hlen p.1 p.2 hp hz
    exact ih _ _ (by simp only [List.length_drop]; omega)

theorem rawDataUsingReserved_noPanic (s : Bytes) (hs : s.length = 512) : NoPanic (Share.rawDataUsingReserved s) := by
  refine noPanic_bind ?_ fun i _ => noPanic_ite noPanic_ok fun _ => noPanic_ite noPanic_err fun _ =>
    noPanic_sliceFrom (by omega)
  -- the reserved bytes end at offset 30 + 4 + 20 + 4 = 58 at the latest
  refine noPanic_ite (noPanic_slice_bind ⟨by omega, by split <;> split <;> omega⟩ fun rb _ => ?_) fun _ => noPanic_ok
  exact noPanic_ite noPanic_err fun _ => noPanic_ite noPanic_err fun _ => noPanic_ok

theorem extractRawData_noPanic (shares : List Bytes) (found : Bool) (h : ∀ s ∈ shares, s.length = 512) :
    NoPanic (extractRawData shares found) := by
  fun_induction extractRawData shares found with
  | case1 => exact noPanic_ok
  | case2 s rest found _ ih =>
    exact noPanic_bind (rawDataUsingReserved_noPanic s (h s (by simp))) fun _ _ =>
      noPanic_map (ih _ fun x hx => h x (by simp [hx]))
  | case3 s rest found _ ih => exact noPanic_map (ih fun x hx => h x (by simp [hx]))

/-- **C16 (ParseTxs).** `share.ParseTxs` does not panic on any list of 512-byte shares. -/
theorem parseTxs_total (shares : List Bytes) (h : ∀ s ∈ shares, s.length = 512) : NoPanic (parseTxs shares) :=
  noPanic_ite noPanic_ok fun _ => noPanic_ite noPanic_err fun _ =>
    noPanic_bind (extractRawData_noPanic shares false h) fun _ _ => parseRawData_noPanic (Nat.le_refl _)

theorem parseSparseLoop_noPanic (shares : List Bytes) (seqs : List SparseSeq) : NoPanic (parseSparseLoop shares seqs) := by
  fun_induction parseSparseLoop shares seqs with
  | case1 => exact noPanic_ok
  | case2 | case5 => exact noPanic_err
  | case3 | case4 | case6 => assumption

theorem seqToBlob_noPanic (q : SparseSeq) : NoPanic (seqToBlob q) := by
  refine noPanic_ite noPanic_err fun h => noPanic_slice_bind ⟨by omega, by omega⟩ fun d _ => ?_
  split
  · exact noPanic_err
  · exact noPanic_ok

/-- **C16 (ParseBlobs).** `share.ParseBlobs` does not panic on any list of shares, of any lengths. -/
theorem parseBlobs_total (shares : List Bytes) : NoPanic (parseBlobs shares) :=
  noPanic_ite noPanic_ok fun _ =>
    noPanic_bind (parseSparseLoop_noPanic shares []) fun seqs _ => noPanic_mapM seqToBlob_noPanic seqs

theorem parseSharesLoop_noPanic (shares : List Bytes) (seqs : List Sequence) (cur : Sequence) :
    NoPanic (parseSharesLoop shares seqs cur) := by
  fun_induction parseSharesLoop shares seqs cur with
  | case1 => exact noPanic_ok
  | case3 => exact noPanic_err
  | case2 | case4 => assumption

/-- **C16 (ParseShares).** `share.ParseShares` does not panic on any list of shares, of any lengths. -/
theorem parseShares_total (shares : List Bytes) (ign : Bool) : NoPanic (parseShares shares ign) :=
  noPanic_bind (parseSharesLoop_noPanic shares [] _) fun _ _ => noPanic_ite noPanic_err fun _ => noPanic_ok

/-- **C16 (Sequence.RawData).** No panic on any sequence: a declared length beyond the data present is an error
    (`fix:` commit 28d453d). -/
theorem sequenceRawData_total (q : Sequence) : NoPanic q.rawData := by
  refine noPanic_bind ?_ fun n _ => noPanic_ite noPanic_err fun h => noPanic_slice ⟨by omega, by omega⟩
  unfold Sequence.sequenceLen
  split
  · exact noPanic_err
  · exact noPanic_ok

theorem rangeLoop_bounds (q : Bytes) (total : Nat) (l : List Bytes) (i : Nat) (start : Option Nat)
    (h : i + l.length = total) (hs : start.getD 0 ≤ i) :
    (rangeLoop q total l i start).1 ≤ (rangeLoop q total l i start).2 ∧ (rangeLoop q total l i start).2 ≤ total := by
  fun_induction rangeLoop q total l i start with
  | case1 => exact ⟨Nat.le_refl _, Nat.zero_le _⟩
  | case2 i st => exact ⟨by simpa [← h] using hs, Nat.le_refl _⟩
  | case3 s rest i start => exact ⟨hs, by omega⟩
  | case4 s rest i start _ start' ih =>
    refine ih (by simp only [List.length_cons] at h; omega) ?_
    show (if _ then some i else start).getD 0 ≤ i + 1
    split
    · exact Nat.le_succ i
    · exact Nat.le_succ_of_le hs

/-- **C16 (GetShareRangeForNamespace).** Its range is a valid slice expression on the shares. -/
theorem getShareRange_bounds (l : List Bytes) (q : Bytes) :
    (getShareRangeForNamespace l q).1 ≤ (getShareRangeForNamespace l q).2 ∧
    (getShareRangeForNamespace l q).2 ≤ l.length := by
  unfold getShareRangeForNamespace
  cases l with
  | nil => simp
  | cons s0 rest =>
    simp only
    split
    · simp
    · split
      · simp
      · exact rangeLoop_bounds q _ (s0 :: rest) 0 none (Nat.zero_add _) (Nat.le_refl _)

/-- **C16 (Square.WrappedPFBs).** No panic on any square of 512-byte shares. -/
theorem wrappedPFBs_total (s : List Bytes) (h : ∀ x ∈ s, x.length = 512) : NoPanic (wrappedPFBs s) :=
  noPanic_ite noPanic_ok fun _ =>
    noPanic_slice_bind (getShareRange_bounds s payForBlobNamespace) fun sub hsub =>
      parseTxs_total sub fun x hx => h x (hsub x hx)

/-- the two guards are the bounds of the slice expression; running out of sizes (Go: index out of range) is
    excluded by the caller's length check -/
theorem deconstructBlobs_noPanic (s : List Bytes) : ∀ (idx sizes : List Nat), idx.length = sizes.length →
    NoPanic (deconstructBlobs s idx sizes)
  | [], _, _ => noPanic_ok
  | i :: is, z :: zs, h => by
    refine noPanic_ite noPanic_err fun _ => noPanic_ite noPanic_err fun _ =>
      noPanic_slice_bind ⟨by omega, by omega⟩ fun sub _ => noPanic_bind (parseBlobs_total sub) fun parsed _ => ?_
    split
    · exact noPanic_map (deconstructBlobs_noPanic s is zs (Nat.succ.inj h))
    · exact noPanic_err

theorem deconstructPfbs_noPanic (s : List Bytes) (pfbDec : Bytes → Res (List Nat)) (hdec : ∀ t, NoPanic (pfbDec t))
    (ws : List Bytes) : NoPanic (deconstructPfbs s pfbDec ws) := by
  induction ws with
  | nil => exact noPanic_ok
  | cons w rest ih =>
    rw [deconstructPfbs]
    split
    · exact noPanic_err
    · next iw _ =>
      refine noPanic_ite noPanic_err fun _ => noPanic_bind (hdec iw.tx) fun sizes _ => noPanic_ite noPanic_err fun hlen =>
        noPanic_bind (deconstructBlobs_noPanic s _ sizes (Decidable.not_not.mp hlen).symm) fun blobs _ => ?_
      split
      · exact noPanic_err
      · exact noPanic_map ih

/-- **C16 (Deconstruct).** `square.Deconstruct` does not panic on any square of 512-byte shares, for every PFB
    decoder that itself does not panic; share indexes and declared blob sizes are arbitrary. -/
theorem deconstruct_total (s : List Bytes) (pfbDec : Bytes → Res (List Nat)) (h : ∀ x ∈ s, x.length = 512)
    (hdec : ∀ t, NoPanic (pfbDec t)) : NoPanic (deconstruct s pfbDec) := by
  refine noPanic_ite noPanic_ok fun _ => ?_
  have hb := getShareRange_bounds s txNamespace
  generalize getShareRangeForNamespace s txNamespace = r at hb
  obtain ⟨txS, txE⟩ := r
  have hparse : ∀ sub : List Bytes, (∀ x ∈ sub, x ∈ s) → NoPanic (parseTxs sub) :=
    fun sub hsub => parseTxs_total sub fun x hx => h x (hsub x hx)
  refine noPanic_ite noPanic_err fun _ => ?_
  -- the second range is looked up in `s[txE:]`, so it lies within `s` once `txE` is added back
  rw [sliceFrom, if_pos hb.2, res_bind_ok]
  have hw := getShareRange_bounds (s.drop txE) payForBlobNamespace
  rw [List.length_drop] at hw
  generalize getShareRangeForNamespace (s.drop txE) payForBlobNamespace = rw at hw
  refine noPanic_ite (noPanic_slice_bind hb hparse) fun _ => noPanic_ite noPanic_err fun _ =>
    noPanic_slice_bind hb fun txSub htx => noPanic_bind (hparse txSub htx) fun txs _ =>
    noPanic_slice_bind ⟨by omega, by omega⟩ fun wSub hws => noPanic_bind (hparse wSub hws) fun wpfbs _ =>
    noPanic_map (deconstructPfbs_noPanic s pfbDec hdec wpfbs)

/-- non-vacuity: a sequence length far beyond the data present gives `.error .err`, not `.panic` -/
example : (match parseBlobs [List.replicate 28 0 ++ [7] ++ [1] ++ be32 4096 ++ zeros 478] with
    | .error .err => true | _ => false) = true := by
  decide +kernel

end GoSquare.C16
