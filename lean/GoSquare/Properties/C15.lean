import GoSquare.Proofs.Sqrt
/-! # C15 — subtree-width, mountain-range and alignment arithmetic obey their laws

Go `int`s are unbounded naturals here; every theorem states the bound it needs (`2^63` for the
64-bit doubling loop, `2^52` for the floating-point side computation — the property's own bound). -/
namespace GoSquare.C15

abbrev Pow2 (n : Nat) : Prop := Nat.isPowerOfTwo n

/-- **C15 (RoundUpPowerOfTwo).** The least power of two at or above the input. -/
theorem roundUp_least_pow2 (n : Nat) (h : n ≤ 2 ^ 63) :
    Pow2 (roundUpPow2 n) ∧ n ≤ roundUpPow2 n ∧ ∀ p, Pow2 p → n ≤ p → roundUpPow2 n ≤ p := by
  obtain ⟨j, he, hle, hor⟩ := roundUpPow2_spec n h
  rw [he]
  refine ⟨⟨j, rfl⟩, hle, ?_⟩
  rintro p ⟨m, rfl⟩ hp
  exact Nat.pow_le_pow_right (by omega) (pow2_exp_le hor hp)

/-- **C15 (RoundDownPowerOfTwo).** Error exactly for 0; otherwise the greatest power of two at or
    below the input. -/
theorem roundDown_greatest_pow2 (n : Nat) (h : n ≤ 2 ^ 63) :
    (roundDownPow2 n = none ↔ n = 0) ∧
    (1 ≤ n → ∃ j, roundDownPow2 n = some (2 ^ j) ∧ 2 ^ j ≤ n ∧ n < 2 ^ (j + 1)) := by
  constructor
  · refine ⟨fun h => Decidable.by_contra fun h0 => ?_, fun h => by rw [h]; rfl⟩
    rw [roundDownPow2, if_neg h0] at h
    simp only at h
    split at h <;> cases h
  · intro h1
    obtain ⟨j, he, hle, hor⟩ := roundUpPow2_spec n h
    unfold roundDownPow2
    rw [if_neg (by omega)]
    simp only [he]
    by_cases heq : 2 ^ j = n
    · exact ⟨j, by rw [if_pos heq], by omega, by rw [Nat.pow_succ]; omega⟩
    · -- the loop overshot: `j = i + 1` with `2^i < n < 2^(i+1)`
      obtain _ | i := j
      · have : ¬ (1 < n) := by simpa using hle
        exact absurd (show (2:Nat) ^ 0 = n by omega) heq
      · have hlt : 2 ^ i < n := by simpa using hor
        refine ⟨i, ?_, by omega, by omega⟩
        rw [if_neg heq, Nat.pow_succ, Nat.mul_div_cancel _ (by omega : 0 < 2)]
/-- **C15 (IsPowerOfTwo).** The bit trick holds exactly on powers of two. -/
theorem isPowerOfTwo_spec (n : Nat) : isPowerOfTwo n = true ↔ Pow2 n := by
  show isPowerOfTwo n = true ↔ Nat.isPowerOfTwo n
  rw [← Nat.ne_zero_and_sub_one_eq_zero_iff_isPowerOfTwo]
  simp only [isPowerOfTwo, Bool.and_eq_true, beq_iff_eq, bne_iff_ne]
  exact and_comm

/-- the floating-point computation is exact at 0 too (the side of the empty square is 1) -/
theorem minSquare_least' (n : Nat) (h : n ≤ 2 ^ 52) :
    Pow2 (blobMinSquareSize n) ∧ n ≤ blobMinSquareSize n * blobMinSquareSize n ∧
    ∀ p, Pow2 p → n ≤ p * p → blobMinSquareSize n ≤ p := by
  obtain ⟨p1, p2, p3⟩ := roundUp_least_pow2 (ceilSqrt n) (ceilSqrt_le n h)
  unfold blobMinSquareSize
  rw [ceilSqrtF64_f64OfNat n h]
  exact ⟨p1, (ceilSqrt_le_iff n _).1 p2, fun p hp hnp => p3 p hp ((ceilSqrt_le_iff n p).2 hnp)⟩

/-- **C15 (minimal side, incl. the floating-point computation).** `BlobMinSquareSize` / `square.Size`, for every
    share count up to `2^52`. -/
theorem minSquare_least (n : Nat) (h1 : 1 ≤ n) (h : n ≤ 2 ^ 52) :
    Pow2 (blobMinSquareSize n) ∧ n ≤ blobMinSquareSize n * blobMinSquareSize n ∧
    ∀ p, Pow2 p → n ≤ p * p → blobMinSquareSize n ≤ p :=
  have _ := h1 -- `h1` is part of the property's statement; the proof does not need it
  minSquare_least' n h

/-- the doubling loop starts at 1 -/
theorem minSquare_zero : blobMinSquareSize 0 = 1 := by decide

/-- one value, computed by the kernel: at `2^52 + 1` binary64 is no longer exact, in the model as in the Go code -/
theorem minSquare_beyond : blobMinSquareSize (2 ^ 52 + 1) = 2 ^ 26 := by decide +kernel

/-- ⌈n / t⌉ as `SubTreeWidth` computes it -/
theorem ceilDiv_code (n t : Nat) (ht : 1 ≤ t) :
    (if n % t != 0 then n / t + 1 else n / t) = (n + t - 1) / t := by
  rw [← ceilDiv_if n t ht]
  simp only [bne_iff_ne, Nat.pos_iff_ne_zero]

/-- "at most `t` subtree roots of width `v`" is "`v` at least `⌈n/t⌉`" -/
theorem ceilDiv_le_iff (n t v : Nat) (ht : 1 ≤ t) (hv : 1 ≤ v) :
    (n + v - 1) / v ≤ t ↔ (n + t - 1) / t ≤ v := by
  rw [← Nat.le_mul_iff_le_left hv, ← Nat.le_mul_iff_le_left ht, Nat.mul_comm]

/-- **C15 (SubTreeWidth).** A power of two, no larger than the minimal square side, and equal to
    the least power of two `w` with `⌈n/w⌉ ≤ t` unless capped by that side. -/
theorem subTreeWidth_spec (n t : Nat) (hn : 1 ≤ n) (hn52 : n ≤ 2 ^ 52) (ht : 1 ≤ t) :
    Pow2 (subTreeWidth n t) ∧
    subTreeWidth n t ≤ blobMinSquareSize n ∧
    subTreeWidth n t = min (roundUpPow2 ((n + t - 1) / t)) (blobMinSquareSize n) ∧
    (Pow2 (roundUpPow2 ((n + t - 1) / t)) ∧ (n + roundUpPow2 ((n + t - 1) / t) - 1) / roundUpPow2 ((n + t - 1) / t) ≤ t ∧
      ∀ w, Pow2 w → (n + w - 1) / w ≤ t → roundUpPow2 ((n + t - 1) / t) ≤ w) := by
  have hs : subTreeWidth n t = min (roundUpPow2 ((n + t - 1) / t)) (blobMinSquareSize n) := by
    unfold subTreeWidth
    simp only
    rw [ceilDiv_code n t ht]
  have hsb : (n + t - 1) / t ≤ 2 ^ 63 :=
    Nat.le_trans (ceilDiv_le_self n t ht) (Nat.le_trans hn52 (by decide))
  obtain ⟨p1, p2, p3⟩ := roundUp_least_pow2 _ hsb
  obtain ⟨m1, _, _⟩ := minSquare_least n hn hn52
  have hpos : 1 ≤ roundUpPow2 ((n + t - 1) / t) := roundUpPow2_pos _
  refine ⟨?_, ?_, hs, p1, ?_, ?_⟩
  · rw [hs, Nat.min_def]
    split
    · exact p1
    · exact m1
  · rw [hs]; exact Nat.min_le_right _ _
  · exact (ceilDiv_le_iff n t _ ht hpos).mpr p2
  · exact fun w hw hle => p3 w hw ((ceilDiv_le_iff n t w ht (Nat.pos_of_isPowerOfTwo hw)).mp hle)

/-- **C15 (NextShareIndex / RoundUpByMultipleOf).** The least multiple of the width at or after
    the cursor. -/
theorem nextShareIndex_least (cursor n t : Nat) (hw : 0 < subTreeWidth n t) :
    subTreeWidth n t ∣ nextShareIndex cursor n t ∧ cursor ≤ nextShareIndex cursor n t ∧
    ∀ m, subTreeWidth n t ∣ m → cursor ≤ m → nextShareIndex cursor n t ≤ m := by
  obtain ⟨a, b, _⟩ := roundUpByMultipleOf_spec cursor _ hw
  exact ⟨a, b, fun m hd hc => roundUpByMultipleOf_least cursor _ m hw hd hc⟩

theorem subTreeWidth_pos (n t : Nat) (hn : 1 ≤ n) (hn52 : n ≤ 2 ^ 52) (ht : 1 ≤ t) : 0 < subTreeWidth n t :=
  have _ : _ ∧ _ ∧ _ := ⟨hn, hn52, ht⟩ -- part of the property's statement; the proof needs none of them
  GoSquare.subTreeWidth_pos n t

/-- what the loop maintains, for the list produced from `total` -/
def MmrOK (w total : Nat) (l : List Nat) : Prop :=
  (∀ x ∈ l, Pow2 x ∧ x ≤ w ∧ x ≤ total) ∧ l.sum = total ∧ l.Pairwise (· ≥ ·)

theorem MmrOK.cons {w total t : Nat} {l : List Nat} (ht : Pow2 t) (htw : t ≤ w) (htt : t ≤ total)
    (h : MmrOK w (total - t) l) (hl : ∀ x ∈ l, x ≤ t) : MmrOK w total (t :: l) := by
  obtain ⟨i1, i2, i3⟩ := h
  refine ⟨?_, by rw [List.sum_cons]; omega, List.pairwise_cons.2 ⟨hl, i3⟩⟩
  intro x hx
  rcases List.mem_cons.mp hx with rfl | hx
  · exact ⟨ht, htw, htt⟩
  · exact ⟨(i1 x hx).1, (i1 x hx).2.1, Nat.le_trans (i1 x hx).2.2 (Nat.sub_le ..)⟩

theorem mmrSizesAux_zero (fuel w : Nat) : mmrSizesAux fuel 0 w = [] := by
  cases fuel <;> rfl

theorem mmrSizesAux_succ {w total : Nat} (hw : 1 ≤ w) (h0 : total ≠ 0) (hb : total ≤ 2 ^ 63) :
    ∃ t, 1 ≤ t ∧ t ≤ total ∧ t ≤ w ∧
      (∀ fuel, mmrSizesAux (fuel + 1) total w = t :: mmrSizesAux fuel (total - t) w) ∧
      (w ≤ total ∧ t = w ∨ total < w ∧ roundDownPow2 total = some t ∧ Pow2 t ∧ total - t < t) := by
  by_cases hge : w ≤ total
  · exact ⟨w, hw, hge, Nat.le_refl _, fun _ => by rw [mmrSizesAux, if_neg h0, if_pos hge], .inl ⟨hge, rfl⟩⟩
  · obtain ⟨j, hj, hjl, hju⟩ := (roundDown_greatest_pow2 total hb).2 (by omega)
    exact ⟨2 ^ j, Nat.one_le_two_pow, hjl, by omega, fun _ => by rw [mmrSizesAux, if_neg h0, if_neg hge, hj],
      .inr ⟨by omega, hj, ⟨j, rfl⟩, by omega⟩⟩

/-- every iteration removes at least 1 from `total`, so fuel beyond `total` changes nothing. -/
theorem mmrSizesAux_stable {w : Nat} (hw : 1 ≤ w) (g f total : Nat) (hf : total ≤ f) (hb : total ≤ 2 ^ 63) :
    mmrSizesAux (f + g) total w = mmrSizesAux f total w := by
  induction f generalizing total with
  | zero => obtain rfl := Nat.le_zero.1 hf; rw [mmrSizesAux_zero, mmrSizesAux_zero]
  | succ f ih =>
    by_cases h0 : total = 0
    · subst h0; rw [mmrSizesAux_zero, mmrSizesAux_zero]
    · obtain ⟨t, _, _, -, hstep, -⟩ := mmrSizesAux_succ hw h0 hb
      rw [Nat.add_right_comm, hstep, hstep, ih _ (by omega) (by omega)]

theorem mmrAux_spec (w : Nat) (hw : Pow2 w) (fuel total : Nat) (h : total ≤ fuel) (hb : total ≤ 2 ^ 63) :
    MmrOK w total (mmrSizesAux fuel total w) := by
  induction fuel generalizing total with
  | zero => obtain rfl := Nat.le_zero.1 h; exact ⟨nofun, rfl, .nil⟩
  | succ fuel ih =>
    by_cases h0 : total = 0
    · subst h0; exact ⟨nofun, rfl, .nil⟩
    · obtain ⟨t, ht1, htt, htw, hstep, hor⟩ := mmrSizesAux_succ (Nat.pos_of_isPowerOfTwo hw) h0 hb
      rw [hstep]
      have ih := ih (total - t) (by omega) (by omega)
      -- the sizes that follow are at most `w` and at most what is left
      rcases hor with ⟨_, rfl⟩ | ⟨_, _, hp, hlt⟩
      · exact ih.cons hw htw htt fun x hx => (ih.1 x hx).2.1
      · exact ih.cons hp htw htt fun x hx => Nat.le_of_lt (Nat.lt_of_le_of_lt (ih.1 x hx).2.2 hlt)

/-- **C15 (MerkleMountainRangeSizes).** For a power-of-two width the sizes are non-increasing
    powers of two not exceeding the width, and they sum to `n`. -/
theorem mmr_spec (n w : Nat) (hw : Pow2 w) (hn : n ≤ 2 ^ 63) :
    (∀ x ∈ mmrSizes n w, Pow2 x ∧ x ≤ w) ∧ (mmrSizes n w).sum = n ∧ (mmrSizes n w).Pairwise (· ≥ ·) := by
  obtain ⟨a, b, c⟩ := mmrAux_spec w hw n n (Nat.le_refl _) hn
  exact ⟨fun x hx => ⟨(a x hx).1, (a x hx).2.1⟩, b, c⟩

/-- non-vacuity: the ADR-013 example (11 shares, threshold 3 → width 4, mountains 4,4,2,1) -/
example : subTreeWidth 11 3 = 4 ∧ mmrSizes 11 4 = [4, 4, 2, 1] ∧ nextShareIndex 13 11 3 = 16 := by decide +kernel

end GoSquare.C15
