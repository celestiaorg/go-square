import GoSquare.Proofs.CompactSub
/-! # C09 — transactions survive the compact-share encoding round trip

(1) the model of `CompactShareSplitter` writes exactly `Spec.compactSeq` (for every list of
transactions, both compact namespaces); (2) `ParseTxs` of that sequence returns exactly the
transactions, in order; (3) the sequence-length field is the number of length-prefixed bytes and
(4) the number of shares is the minimum that holds them. -/
namespace GoSquare.C09
open Spec

/-- **C09/C10 (writer = specification)**, with `Count()` before the `Export` (the compact prediction of C13). -/
theorem writer_eq_spec (ns : Bytes) (hc : CompactNs ns) (units : List Bytes)
    (hlt : (unitStream units).length < 4294967296) :
    ∃ c0 c, CompactSplitter.new ns 0 = .ok c0 ∧ units.foldlM (fun w t => w.writeTx t) c0 = .ok c ∧
      c.exportShares.map (·.2) = .ok (Spec.compactSeq ns units) ∧
      c.count = compactSharesNeeded (unitStream units).length := by
  obtain ⟨c0, c, hnew, hw, hN⟩ := writer_normal ns hc units
  obtain ⟨c', x', hex, _⟩ := export_spec ns (zeros 4) hc c units hN (by simp) hlt
  exact ⟨c0, c, hnew, hw, by simp [hex, Except.map], count_spec ns _ hc c units hN⟩

/-- the transactions C09 quantifies over; below `2^63` a delimiter has at most nine bytes (`readUvarint_uvarint`) -/
def NonEmptyUnits (units : List Bytes) : Prop := ∀ u ∈ units, u ≠ [] ∧ u.length < 2 ^ 63

/-- **C09 (round trip)**, on the specified sequence. -/
theorem parse_spec (ns : Bytes) (hc : CompactNs ns) (units : List Bytes) (hne : units ≠ [])
    (hu : NonEmptyUnits units) (hlt : (unitStream units).length < 4294967296) :
    parseTxs (Spec.compactSeq ns units) = .ok units := by
  have hpos := unitStream_pos units hne
  obtain ⟨hb1, hb2⟩ := compactCount_bounds _ hpos
  have hn := compactCount_pos hpos
  -- the whole sequence is the sub-range `[0, n)`; the first unit starts at offset 0
  have hex := extract_sub ns hc _ _ (unitStarts_sorted units 0).1 _ hb1 hb2 (compactCount (unitStream units).length) 0
    (Nat.le_of_eq (Nat.zero_add _))
  have h0 : (unitStarts 0 units).find? (fun s => decide (compactOff 0 ≤ s)) = some 0 := by
    cases units with
    | nil => exact absurd rfl hne
    | cons u us => simp [unitStarts, compactOff]
  simp only [h0, Nat.zero_add, Nat.sub_zero, List.drop_zero] at hex
  rw [List.take_of_length_le (Nat.le_of_eq (padded_length _ _ hb2))] at hex
  rw [compactSeq_eq, List.range_eq_range', parseTxs_specShares ns hc _ _ 0 _ hn _ hex]
  exact (parseRawData_units units _ _ [] hu (Nat.le_refl _)).trans (by simp)

/-- **C09 (end to end on the model of the code).** `NewCompactShareSplitter`, `WriteTx` of every transaction, `Export`,
    then `ParseTxs`: the transactions come back (non-empty list, non-empty transactions, stream below 2^32 bytes). -/
theorem roundtrip (ns : Bytes) (hc : CompactNs ns) (units : List Bytes) (hne : units ≠ [])
    (hu : NonEmptyUnits units) (hlt : (unitStream units).length < 4294967296) :
    ∃ c0 c shares, CompactSplitter.new ns 0 = .ok c0 ∧ units.foldlM (fun w t => w.writeTx t) c0 = .ok c ∧
      c.exportShares.map (·.2) = .ok shares ∧ parseTxs shares = .ok units := by
  obtain ⟨c0, c, h0, h1, h2, _⟩ := writer_eq_spec ns hc units hlt
  exact ⟨c0, c, _, h0, h1, h2, parse_spec ns hc units hne hu hlt⟩

/-- **C09 (sequence length and minimal share count).** One share fewer cannot hold the bytes. -/
theorem seqLen_and_minimal (ns : Bytes) (hc : CompactNs ns) (units : List Bytes) (hne : units ≠ [])
    (hlt : (unitStream units).length < 4294967296) :
    (Spec.compactSeq ns units).length = compactSharesNeeded (unitStream units).length ∧
    (∀ s0 ∈ (Spec.compactSeq ns units).head?, Share.sequenceLen s0 = (unitStream units).length) ∧
    (unitStream units).length ≤ availableBytesFromCompactShares (Spec.compactSeq ns units).length ∧
    availableBytesFromCompactShares ((Spec.compactSeq ns units).length - 1) < (unitStream units).length := by
  have hpos := unitStream_pos units hne
  have hlen := compactSeq_count ns units
  obtain ⟨hb1, hb2⟩ := compactCount_bounds _ hpos
  refine ⟨compactSeq_length ns units, ?_,
    by rw [hlen, availableBytes_eq_compactOff]; exact hb2, by rw [hlen, availableBytes_eq_compactOff]; exact hb1⟩
  intro s0 hs0
  obtain ⟨m, hs⟩ := compactSeq_cons ns hne
  rw [hs] at hs0
  cases hs0
  exact specShare_seqLen ns hc _ _ hlt

example : NonEmptyUnits [[1, 2, 3], [4, 5]] := by
  intro u hu; simp at hu; rcases hu with rfl | rfl <;> simp

end GoSquare.C09
