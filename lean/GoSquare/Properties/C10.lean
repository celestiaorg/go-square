import GoSquare.Proofs.CompactParse
/-! # C10 — share wire format is byte-exact per the share specification

`Spec.Format` is written field by field from the share specification, independently of the Go
writer and reader. Here: the sparse (blob) writer and the padding constructors emit exactly the
specified bytes; the accessors decode exactly the specified fields; the info byte and the reserved
bytes are exact for ALL values. (The compact writer against `Spec.compactSeq` is C09's file.) -/
namespace GoSquare.C10
open Spec

/-- **C10 (blob shares).** `SparseShareSplitter.Write` of a blob that is `Blob.Valid` (29-byte non-compact namespace,
    share version 0, or 1 with a 20-byte signer, 1 to below 2^32 bytes of data) appends exactly `Spec.sparseSeq`. -/
theorem blob_shares_are_as_specified (acc : List Bytes) (b : Blob) (hb : b.Valid) :
    sparseWrite acc b = .ok (acc ++ Spec.sparseSeq b) := sparseWrite_eq_spec acc b hb

/-- **C10 (padding shares).** `NamespacePaddingShares`. -/
theorem padding_shares_are_as_specified (ns : Bytes) (ver n : Nat) (hns : ns.length = 29) (hv : ver ≤ 127)
    (hc : isCompactNs ns = false) :
    namespacePaddingShares ns ver n = .ok (List.replicate n (Spec.paddingShare ns ver)) :=
  namespacePaddingShares_eq_spec ns ver n hns hv hc

/-- **C10 (padding shares).** `ReservedPaddingShares`, `TailPaddingShares`. -/
theorem reserved_and_tail_padding (n : Nat) :
    reservedPaddingShares n = .ok (List.replicate n (Spec.paddingShare primaryReservedPaddingNamespace 0)) ∧
    tailPaddingShares n = .ok (List.replicate n (Spec.paddingShare tailPaddingNamespace 0)) :=
  ⟨namespacePaddingShares_eq_spec _ 0 n (by decide) (by omega) (by decide),
   namespacePaddingShares_eq_spec _ 0 n (by decide) (by omega) (by decide)⟩

/-- **C10 (info byte, all 256 values).** Version = byte >> 1, start flag = byte & 1. -/
theorem infoByte_all (b : UInt8) :
    parseInfoByte b = .ok b ∧ newInfoByte (b.toNat / 2) (b.toNat % 2 == 1) = .ok b := by
  have key : newInfoByte (b.toNat / 2) (b.toNat % 2 == 1) = .ok b := by
    have hlt := b.toNat_lt
    have e : b.toNat / 2 * 2 + (if (b.toNat % 2 == 1) = true then 1 else 0) = b.toNat := by
      by_cases h : b.toNat % 2 = 1
      · rw [if_pos (beq_iff_eq.mpr h)]; omega
      · rw [if_neg (fun c => h (beq_iff_eq.mp c))]; omega
    rw [newInfoByte, if_neg (by omega), e]
    exact congrArg _ UInt8.ofNat_toNat
  exact ⟨key, key⟩

theorem newInfoByte_rejects (v : Nat) (s : Bool) : (newInfoByte v s = .error .err) ↔ v > 127 := by
  unfold newInfoByte; by_cases h : v > 127 <;> simp [h]

/-- **C10 (reserved bytes, all values).** 4-byte big endian, accepted exactly below the share size. -/
theorem reservedBytes_spec (r : Nat) (h : r < 4294967296) :
    (newReservedBytes r = .ok (be32 r) ↔ r < 512) ∧
    (parseReservedBytes (be32 r) = .ok r ↔ r < 512) ∧ (r ≥ 512 → parseReservedBytes (be32 r) = .error .err) := by
  have hrb : readBe32 (be32 r) = r := by simpa using readBe32_be32 r h []
  refine ⟨?_, ?_, ?_⟩
  · unfold newReservedBytes; split <;> simp <;> omega
  · unfold parseReservedBytes; simp [hrb]
  · intro hge; unfold parseReservedBytes; simp [hrb]; omega

/-- **C10 (accessors on blob shares).** Length, namespace and version of every share: `sparseSeq_mem`. -/
theorem accessors_on_blob_shares (b : Blob) (hb : b.BlobValid) :
    let signer : Bytes := if b.ver = 1 then b.signer.getD [] else []
    let cap0 := 478 - signer.length
    let first := fill (b.ns ++ [infoByte b.ver true] ++ be32 b.data.length ++ signer ++ b.data.take cap0)
    (Share.ns first = b.ns ∧ Share.version first = b.ver ∧ Share.isSequenceStart first = true ∧
      Share.sequenceLen first = b.data.length ∧ Share.signer first = b.signer ∧ Share.isPadding first = false ∧
      Share.rawData first = b.data.take cap0 ++ zeros (cap0 - (b.data.take cap0).length)) ∧
    (∀ c, c.length ≤ 482 →
      let s := fill (b.ns ++ [infoByte b.ver false] ++ c)
      Share.isSequenceStart s = false ∧ Share.isPadding s = false ∧
      Share.rawData s = c ++ zeros (512 - (30 + c.length))) := by
  obtain ⟨-, d, hlen, hsig, hraw⟩ := first_share_reads b hb.valid
  refine ⟨⟨d.ns, d.version, d.start, hlen, hsig, ?_, hraw⟩, fun c _ => ?_⟩
  · exact (isData_of_decoded hb d fun _ => hlen).2.1
  · obtain ⟨d, hraw⟩ := cont_share_reads b hb.valid c
    exact ⟨d.start, (isData_of_decoded hb d nofun).2.1, by rw [hraw, show 512 - (30 + c.length) = 482 - c.length from Nat.sub_add_eq 512 30 _]⟩

/-- **C10 (accessors on padding shares).** `IsPadding`, for share versions 0 and 1. -/
theorem accessors_on_padding (ns : Bytes) (ver : Nat) (hns : ns.length = 29) (hv : ver = 0 ∨ ver = 1) :
    Share.isPadding (Spec.paddingShare ns ver) = true := (paddingShare_isPad ns ver hns hv).2

/-- **C10 (accessors on compact shares).** On every share of a specified compact sequence (what the compact writer
    emits, C09), whatever the transactions. -/
theorem accessors_on_compact_shares (ns : Bytes) (hc : CompactNs ns) (D : Bytes) (S : List Nat) (j : Nat) :
    Share.version (specShare ns D S j) = 0 ∧ Share.rawData (specShare ns D S j) = compactPayload D j ∧
    Share.rawDataUsingReserved (specShare ns D S j) =
      .ok (if resOf S j = 0 then [] else (compactPayload D j).drop (resOf S j - compactHdr j)) :=
  ⟨specShare_version ns hc D S j, specShare_rawData ns hc D S j, specShare_reserved ns hc D S j⟩

end GoSquare.C10
