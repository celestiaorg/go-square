import GoSquare.Proofs.CommitSquare
import GoSquare.Proofs.C04Core
import GoSquare.Proofs.SquareWF
/-! # C05 — commitments computed from a blob in isolation match the row trees of the square

The structural theorems, over an arbitrary hash, are in `Proofs/C05Core.lean` (also namespace
`GoSquare.C05`); `Proofs/CommitSquare.lean` instantiates them on a square of shares that holds a
blob. Here: every square `Construct` returns is such a square for each of its blobs, whose shares
sit verbatim at the recorded, width-aligned index of a `2^k × 2^k` square (C03, C04). -/
namespace GoSquare.C05
open Spec

/-- **C05 on `Construct`, arbitrary hash functions.** Every subtree root of every blob `(p, j)`,
    computed from the blob alone, is the inner node of a square row's tree over the same shares, no
    subtree spanning two rows (`CommitSquare.RowInnerNodes`). -/
theorem construct_subtree_roots {D : Type} (leafH : Bytes → D) (nodeH : D → D → D) (emptyH : D)
    (dec : Bytes → Decoded) (hdec : DecValid dec) (txs : List Bytes) (max thr : Nat)
    (hsz : 478 * (max * max) < 4294967296) (ht : 1 ≤ thr) (sq : List Bytes)
    (h : construct dec txs max thr = .ok sq) :
    ∃ k N bl, sq.length = 2 ^ k * 2 ^ k ∧ txs = N ++ bl ∧
      ∀ (p j : Nat) (raw : Bytes) (b : Blob), bl[p]? = some raw → (decB dec raw).blobs[j]? = some b →
        ∃ idx iw roots, (patched thr N (bl.map (decB dec)))[p]? = some iw ∧ iw.tx = (decB dec raw).tx ∧
          iw.shareIndexes[j]? = some (u32 idx) ∧
          (sq.drop idx).take (sparseSeq b).length = sparseSeq b ∧
          subtreeRootsWith (Nmt.rootWith leafH nodeH emptyH) b thr = .ok roots ∧
          CommitSquare.RowInnerNodes leafH nodeH emptyH sq k idx (CommitSquare.blobLeaves b)
            (mmrSizes (sparseSeq b).length (subTreeWidth (sparseSeq b).length thr)) roots := by
  obtain ⟨N, bl, e, _, hbl, hfit, hsq⟩ := construct_square dec hdec txs max thr hsz sq h
  have hv := kept_blobs hdec hbl
  obtain ⟨hsqe, g1, g2, _⟩ := hsq.closedForm
  obtain ⟨k, hk⟩ := (C15.minSquare_least' _ (show closedEstimate thr N (bl.map (decB dec)) ≤ 2 ^ 52 by omega)).1
  have hlen : sq.length = 2 ^ k * 2 ^ k := by rw [hsqe, squareOf_length thr N _ _ g1 g2, hk]
  refine ⟨k, N, bl, hlen, e, ?_⟩
  intro p j raw b hp hj
  -- C04: the blob is valid and sits verbatim at its recorded, width-aligned index
  have hB := decB_getElem? dec hp
  obtain ⟨_, idx, iw, _, r1, r3, _, _, r6, r7, r9⟩ := C04.blob_recorded thr N _ _ hv g1 p j _ b hB hj
  have hat : (sq.drop idx).take (sparseSeq b).length = sparseSeq b := by rw [hsqe]; exact r7
  obtain ⟨roots, hg, hr⟩ := CommitSquare.placed_blob_roots leafH nodeH emptyH sq k hlen b
    (hv _ (List.mem_of_getElem? hB) b (List.mem_of_getElem? hj)).valid thr idx ht hat r9
  exact ⟨idx, iw, roots, r1, r3, r6, hat, hg, hr⟩

end GoSquare.C05

namespace GoSquare.CommitSquare
open Spec

/-- **C05 on `Construct`** with the model's NMT hashes (`GenerateSubtreeRoots`); the share commitment
    is the caller's Merkle root over exactly those inner nodes. -/
theorem construct_commitments (dec : Bytes → Decoded) (hdec : DecValid dec) (txs : List Bytes) (max thr : Nat)
    (hsz : 478 * (max * max) < 4294967296) (ht : 1 ≤ thr) (sq : List Bytes)
    (h : construct dec txs max thr = .ok sq) :
    ∃ k N bl, sq.length = 2 ^ k * 2 ^ k ∧ txs = N ++ bl ∧
      ∀ (p j : Nat) (raw : Bytes) (b : Blob), bl[p]? = some raw → (decB dec raw).blobs[j]? = some b →
        ∃ idx iw roots, (patched thr N (bl.map (decB dec)))[p]? = some iw ∧ iw.tx = (decB dec raw).tx ∧
          iw.shareIndexes[j]? = some (u32 idx) ∧
          (sq.drop idx).take (sparseSeq b).length = sparseSeq b ∧
          generateSubtreeRoots b thr = .ok roots ∧
          RowInnerNodes Nmt.hashLeaf Nmt.hashNode Nmt.emptyRoot sq k idx (blobLeaves b)
            (mmrSizes (sparseSeq b).length (subTreeWidth (sparseSeq b).length thr)) roots ∧
          ∀ {D' : Type} (merkleRoot : List Bytes → D'),
            createCommitment b merkleRoot thr = .ok (merkleRoot roots) := by
  obtain ⟨k, N, bl, hlen, e, hall⟩ := C05.construct_subtree_roots Nmt.hashLeaf Nmt.hashNode Nmt.emptyRoot dec hdec txs
    max thr hsz ht sq h
  refine ⟨k, N, bl, hlen, e, ?_⟩
  intro p j raw b hp hj
  obtain ⟨idx, iw, roots, r1, r2, r3, hat, hg, hr⟩ := hall p j raw b hp hj
  exact ⟨idx, iw, roots, r1, r2, r3, hat, hg, hr,
    fun merkleRoot => C05.commitment_is_merkle_root_of_subtree_roots b thr merkleRoot roots hg⟩

end GoSquare.CommitSquare
