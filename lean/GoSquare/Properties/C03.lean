import GoSquare.Proofs.BuildSquare
import GoSquare.Proofs.SquareParts
import GoSquare.Properties.C18
/-! # C03 — every produced square is a well-formed, namespace-ordered power-of-two square

`Build`/`Construct` return the closed form `squareOf` = tx shares ‖ pay-for-blob shares ‖ reserved
padding ‖ blobs with their namespace padding ‖ tail padding, in which everything outside the two
compact sequences and the blobs' own shares is by construction the canonical padding share
(`Spec.paddingShare`, C10). Here: the side is a power of two not exceeding the maximum, there are
exactly side² shares, each of 512 bytes, in non-decreasing namespace order. -/
namespace GoSquare.C03

/-- what C03 claims of a square -/
structure WellFormed (max : Nat) (sq : List Bytes) : Prop where
  side : ∃ s, Nat.isPowerOfTwo s ∧ s ≤ max ∧ sq.length = s * s
  size : ∀ x ∈ sq, x.length = 512
  order : (sq.map Share.ns).Pairwise (fun a b => cmpBytes a b ≤ 0)

/-- blobs returned by the decoder lie in user namespaces (what `ValidateForBlob` would ensure;
    `tx.UnmarshalBlobTx` does not call it, so this is a hypothesis on the decoder) -/
def DecUser (dec : Bytes → Decoded) : Prop := ∀ t bt, dec t = .blobTx bt → ∀ b ∈ bt.blobs, UserNs b.ns

theorem wellFormed_of_isSquareOf (dec : Bytes → Decoded) (hdec : DecValid dec) (hus : DecUser dec)
    (max thr : Nat) (hmax : Nat.isPowerOfTwo max) (hsz : 478 * (max * max) < 4294967296)
    (N bl : List Bytes) (hbl : ∀ r ∈ bl, dec r = .blobTx (decB dec r))
    (hfit : closedEstimate thr N (bl.map (decB dec)) ≤ max * max)
    (sq : List Bytes) (h : IsSquareOf dec thr N bl sq) : WellFormed max sq := by
  have hv := kept_blobs hdec hbl
  obtain ⟨hsq, g1, g2, _⟩ := h.closedForm
  obtain ⟨_, s1, s4, _⟩ := side_of_fit thr N (bl.map (decB dec)) max hmax hfit hsz
  rw [hsq]
  exact ⟨⟨_, s1, s4, squareOf_length thr N _ _ g1 g2⟩, squareOf_shares_512 thr N _ _ hv,
    squareOf_ns_sorted thr N _ _ hv (kept_blobs hus hbl)⟩

/-- **C03 (`Build`).** Every square `Build` returns is `WellFormed`, for a decoder that returns
    blob-valid blobs (`DecValid`) in user namespaces (`DecUser`) and `max` a power of two with
    `478 * max² < 2^32`. -/
theorem build_wellformed (dec : Bytes → Decoded) (hdec : DecValid dec) (hus : DecUser dec) (txs : List Bytes)
    (max thr : Nat) (hmax : Nat.isPowerOfTwo max) (hsz : 478 * (max * max) < 4294967296) (sq kept : List Bytes)
    (h : build dec txs max thr = .ok (sq, kept)) : WellFormed max sq := by
  obtain ⟨N, bl, _, _, hbl, hfit, hsq⟩ := build_square dec hdec txs max thr hsz sq kept h
  exact wellFormed_of_isSquareOf dec hdec hus max thr hmax hsz N bl hbl hfit sq hsq

/-- **C03 (`Construct`).** The same of every square `Construct` returns. -/
theorem construct_wellformed (dec : Bytes → Decoded) (hdec : DecValid dec) (hus : DecUser dec) (txs : List Bytes)
    (max thr : Nat) (hmax : Nat.isPowerOfTwo max) (hsz : 478 * (max * max) < 4294967296) (sq : List Bytes)
    (h : construct dec txs max thr = .ok sq) : WellFormed max sq := by
  obtain ⟨N, bl, _, _, hbl, hfit, hsq⟩ := construct_square dec hdec txs max thr hsz sq h
  exact wellFormed_of_isSquareOf dec hdec hus max thr hmax hsz N bl hbl hfit sq hsq

theorem userNs_of_validateForBlob (n : Bytes) (h : Ns.validateForBlob n = true) : UserNs n := by
  obtain ⟨hv, hgt⟩ := (C18.validateForBlob_spec n).mp h
  have h1 : cmpBytes primaryReservedPaddingNamespace n = -1 := (cmpBytes_lt_iff _ _).mpr hgt
  have h2 : n < minSecondaryReservedNamespace := C18.lt_of_head_zero hv _
  have h3 : cmpBytes n tailPaddingNamespace = -1 := (cmpBytes_lt_iff _ _).mpr (Std.lt_of_lt_of_le h2 (by decide))
  exact ⟨by rw [h1]; decide, by rw [h3]; decide⟩

/-- non-vacuity: a namespace that satisfies `UserNs` -/
example : UserNs (List.replicate 19 0 ++ List.replicate 10 1) := by unfold UserNs; decide

end GoSquare.C03
