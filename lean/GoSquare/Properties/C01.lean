import GoSquare.Proofs.BuildLoop
import GoSquare.Proofs.ExportKept
/-! # C01 — proposer-built and validator-reconstructed squares are byte-identical

`Build` greedily keeps transactions; `Construct` of exactly the kept list succeeds and yields the
same square, for EVERY transaction list, classifier `dec` and configuration: the accept decision is a
function of the closed-form estimate of what was kept so far (Proofs/Builder.lean), the estimate is
monotone, so replaying the kept list accepts everything and reaches a builder that agrees with
Build's on every field `Export` reads. Determinism is by construction: `build`, `construct` are functions. -/
namespace GoSquare.C01

theorem kept_export_eq (b1 b2 : Builder) (N : List Bytes) (B : List BlobTx) (k1 : Kept b1 N B) (k2 : Kept b2 N B)
    (ht : b1.thr = b2.thr) : b1.exportSquare.map (·.2) = b2.exportSquare.map (·.2) := by
  rw [Builder.exportSquare_map_snd, Builder.exportSquare_map_snd, k1.exportCore_eq, k2.exportCore_eq, ht]

/-- (C01) replaying the kept ordinary transactions -/
theorem replay_normals (dec : Bytes → Decoded) (N : List Bytes) (B : List BlobTx) (tail : List Bytes) :
    ∀ (suf pre : List Bytes) (b : Builder), pre ++ suf = N → Kept b pre [] → (∀ r ∈ N, dec r = .normal) →
    closedEstimate b.thr N B ≤ b.maxSquareSize * b.maxSquareSize →
    ∃ b', Builder.appendAll dec (suf ++ tail) b false = Builder.appendAll dec tail b' false ∧ Kept b' N [] ∧
      b'.thr = b.thr ∧ b'.maxSquareSize = b.maxSquareSize := by
  intro suf
  induction suf with
  | nil => exact fun pre b hp hk _ _ => ⟨b, rfl, by rw [← hp, List.append_nil]; exact hk, rfl, rfl⟩
  | cons t suf replay =>
    intro pre b hp hk hn hfit
    have hN : pre ++ [t] ++ suf = N := by rw [← hp]; simp
    have hdt : dec t = .normal := hn t (by rw [← hp]; simp)
    -- the estimate is monotone, so what fits in the end fits now
    have ha : (b.appendTx t).2 = true := (appendTx_spec b pre [] t hk).1.mpr
      (Nat.le_trans (by rw [← hN]; exact closedEstimate_le_append b.thr (pre ++ [t]) suf [] B) hfit)
    obtain ⟨b', he, hk', ht', hm'⟩ := replay (pre ++ [t]) (b.appendTx t).1
      hN ((appendTx_spec b pre [] t hk).2.1 ha).1 hn (by simpa using hfit)
    refine ⟨b', ?_, hk', by simpa using ht', by simpa using hm'⟩
    rw [List.cons_append, Builder.appendAll_cons, hdt]
    simp only [ha]
    exact he

/-- (C01) replaying the kept blob transactions -/
theorem replay_blobs (dec : Bytes → Decoded) (N : List Bytes) (Braw : List Bytes) :
    ∀ (suf pre : List Bytes) (b : Builder) (seen : Bool), pre ++ suf = Braw → Kept b N (pre.map (decB dec)) →
    (∀ r ∈ Braw, dec r = .blobTx (decB dec r)) →
    closedEstimate b.thr N (Braw.map (decB dec)) ≤ b.maxSquareSize * b.maxSquareSize →
    ∃ b', Builder.appendAll dec suf b seen = .ok b' ∧ Kept b' N (Braw.map (decB dec)) ∧ b'.thr = b.thr := by
  intro suf
  induction suf with
  | nil => exact fun pre b seen hp hk _ _ => ⟨b, rfl, by rw [← hp, List.append_nil]; exact hk, rfl⟩
  | cons t suf replay =>
    intro pre b seen hp hk hb hfit
    have hB : (pre ++ [t]) ++ suf = Braw := by rw [← hp]; simp
    have hdt : dec t = .blobTx (decB dec t) := hb t (by rw [← hp]; simp)
    obtain ⟨hiff, hacc, _⟩ := appendBlobTx_spec b N (pre.map (decB dec)) (decB dec t) hk
    have hmono := closedEstimate_le_append b.thr N [] ((pre ++ [t]).map (decB dec)) (suf.map (decB dec))
    rw [List.append_nil, ← List.map_append, hB, List.map_append] at hmono
    have ha : (b.appendBlobTx (decB dec t)).2 = true := hiff.mpr (Nat.le_trans hmono hfit)
    obtain ⟨b', he, hk', ht'⟩ := replay (pre ++ [t]) (b.appendBlobTx (decB dec t)).1 true
      hB (by rw [List.map_append]; exact (hacc ha).1) hb (by simpa using hfit)
    refine ⟨b', ?_, hk', by simpa using ht'⟩
    rw [Builder.appendAll_cons, hdt]
    simp only [ha]
    exact he

theorem construct_of_kept {dec : Bytes → Decoded} {max thr : Nat} {b b0 : Builder} {N bl : List Bytes}
    (hk : KeptRaw dec max thr b N bl) (hnew : Builder.new max thr = .ok b0) :
    construct dec (N ++ bl) max thr = b.exportSquare.map (·.2) := by
  obtain ⟨hk0, ht0, hm0⟩ := kept_new max thr b0 hnew
  have hfit : closedEstimate b0.thr N (bl.map (decB dec)) ≤ b0.maxSquareSize * b0.maxSquareSize := by
    rw [ht0, hm0]; exact hk.fit
  obtain ⟨b1, he1, hk1, ht1, hm1⟩ := replay_normals dec N (bl.map (decB dec)) bl N [] b0 rfl hk0 hk.normal hfit
  obtain ⟨b3, he3, hk3, ht3⟩ := replay_blobs dec N bl bl [] b1 false rfl hk1 hk.blobTx (by rw [ht1, hm1]; exact hfit)
  have hc : Builder.newWithTxs dec max thr (N ++ bl) = .ok b3 := by
    unfold Builder.newWithTxs; rw [hnew]; exact he1.trans he3
  rw [construct_eq, hc]
  exact kept_export_eq b3 b N (bl.map (decB dec)) hk3 hk.kept (by rw [ht3, ht1, ht0, hk.thr])

/-- **C01.** The kept list is the kept ordinary transactions followed by the kept blob transactions,
    each a subsequence of the input's in input order. -/
theorem build_then_construct (dec : Bytes → Decoded) (txs : List Bytes) (max thr : Nat)
    (sq : List Bytes) (kept : List Bytes) (h : build dec txs max thr = .ok (sq, kept)) :
    (∃ kn kb, kept = kn ++ kb ∧
      kn.Sublist (txs.filter (fun t => dec t == .normal)) ∧ kb.Sublist (txs.filter (fun t => dec t != .normal)) ∧
      (∀ r ∈ kn, dec r = .normal) ∧ (∀ r ∈ kb, ∃ bt, dec r = .blobTx bt)) ∧
    construct dec kept max thr = .ok sq := by
  obtain ⟨b0, b, n, bl, b2, hnew, _, hexp, rfl, hk, hkn, hkb⟩ := build_ok h
  refine ⟨⟨n, bl, rfl, hkn, hkb, hk.normal, fun r hr => ⟨_, hk.blobTx r hr⟩⟩, ?_⟩
  rw [construct_of_kept hk hnew, hexp]; rfl

/-- non-vacuity: `Build` on the empty list -/
example : (match build (fun _ => .normal) [] 4 64 with | .ok r => r.2 == [] && r.1.length == 1 | .error _ => false) = true := by
  decide +kernel

end GoSquare.C01
