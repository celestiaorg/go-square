import GoSquare.Proofs.Namespace
import GoSquare.Proofs.AddInt
/-! # C18 — namespace order, classification and arithmetic are exact

`<` on `List UInt8` is Lean core's lexicographic order, i.e. the byte-wise lexicographic order of
the property. The statements about the order and the predicates hold for byte strings of any length
(namespaces have 29 bytes). -/
namespace GoSquare.C18

/-- **C18 (`Compare` is the lexicographic order).** -/
theorem compare_spec (a b : Bytes) :
    (Ns.compare a b = -1 ↔ a < b) ∧ (Ns.compare a b = 0 ↔ a = b) ∧ (Ns.compare a b = 1 ↔ b < a) ∧
    (Ns.compare a b = -1 ∨ Ns.compare a b = 0 ∨ Ns.compare a b = 1) :=
  ⟨cmpBytes_lt_iff a b, cmpBytes_eq_iff a b, cmpBytes_gt_iff a b, cmpBytes_range a b⟩

/-- **C18 (total order).** Swapping the arguments negates `Compare`; `Compare ≤ 0` is total, antisymmetric, transitive. -/
theorem compare_total_order (a b c : Bytes) :
    Ns.compare b a = - Ns.compare a b ∧
    (Ns.compare a b ≤ 0 ∨ Ns.compare b a ≤ 0) ∧
    (Ns.compare a b ≤ 0 → Ns.compare b a ≤ 0 → a = b) ∧
    (Ns.compare a b ≤ 0 → Ns.compare b c ≤ 0 → Ns.compare a c ≤ 0) := by
  simp only [Ns.compare, cmpBytes_le_iff]
  exact ⟨cmpBytes_swap a b, List.le_total a b, List.le_antisymm, List.le_trans⟩

theorem equals_iff (a b : Bytes) : Ns.equals a b = true ↔ a = b := beq_iff_eq

/-- **C18 (predicates agree with the order).** -/
theorem predicates_spec (a b : Bytes) :
    (Ns.equals a b = true ↔ a = b) ∧
    (Ns.isLessThan a b = true ↔ a < b) ∧
    (Ns.isGreaterThan a b = true ↔ b < a) ∧
    (Ns.isLessOrEqualThan a b = true ↔ ¬ b < a) ∧
    (Ns.isGreaterOrEqualThan a b = true ↔ ¬ a < b) := by
  have hr := cmpBytes_range a b
  refine ⟨equals_iff a b, ?_, ?_, ?_, ?_⟩
  · simp [Ns.isLessThan, Ns.compare, cmpBytes_lt_iff]
  · simp [Ns.isGreaterThan, Ns.compare, cmpBytes_gt_iff]
  · rw [← cmpBytes_gt_iff a b]; unfold Ns.isLessOrEqualThan Ns.compare; rw [decide_eq_true_iff]; omega
  · rw [← cmpBytes_lt_iff a b]; unfold Ns.isGreaterOrEqualThan Ns.compare; rw [decide_eq_true_iff]; omega

/-- **C18 (reserved / padding / parity / tx / pay-for-blob predicates hold exactly on their values
    or intervals).** -/
theorem classification_spec (n : Bytes) :
    (Ns.isTx n = true ↔ n = txNamespace) ∧
    (Ns.isPayForBlob n = true ↔ n = payForBlobNamespace) ∧
    (Ns.isPrimaryReservedPadding n = true ↔ n = primaryReservedPaddingNamespace) ∧
    (Ns.isTailPadding n = true ↔ n = tailPaddingNamespace) ∧
    (Ns.isParityShares n = true ↔ n = paritySharesNamespace) ∧
    (Ns.isPrimaryReserved n = true ↔ ¬ maxPrimaryReservedNamespace < n) ∧
    (Ns.isSecondaryReserved n = true ↔ ¬ n < minSecondaryReservedNamespace) ∧
    (Ns.isReserved n = true ↔ (¬ maxPrimaryReservedNamespace < n ∨ ¬ n < minSecondaryReservedNamespace)) ∧
    (Ns.isUsableNamespace n = true ↔ n ≠ paritySharesNamespace ∧ n ≠ tailPaddingNamespace) := by
  have p1 := (predicates_spec n maxPrimaryReservedNamespace).2.2.2.1
  have p2 := (predicates_spec n minSecondaryReservedNamespace).2.2.2.2
  refine ⟨equals_iff n _, equals_iff n _, equals_iff n _, equals_iff n _, equals_iff n _, p1, p2, ?_, ?_⟩
  · simp only [Ns.isReserved, Bool.or_eq_true, Ns.isPrimaryReserved, Ns.isSecondaryReserved, p1, p2]
  · simp only [Ns.isUsableNamespace, Ns.isParityShares, Ns.isTailPadding, Bool.and_eq_true, Bool.not_eq_true',
      Bool.eq_false_iff, ne_eq, equals_iff]

theorem lt_of_head_zero {n : Bytes} (h : Ns.version n = 0) (m : Bytes) : n < 255 :: m := by
  cases n with
  | nil => simp
  | cons x xs =>
    simp only [Ns.version] at h
    have hx : x = 0 := UInt8.toNat_inj.mp (by simpa using h)
    subst hx
    rw [List.cons_lt_cons_iff]; left; decide

/-- **C18 (ValidateForBlob).** Exactly the version-0 namespaces above the primary reserved range. -/
theorem validateForBlob_spec (n : Bytes) :
    Ns.validateForBlob n = true ↔ Ns.version n = 0 ∧ maxPrimaryReservedNamespace < n := by
  obtain ⟨-, -, -, -, -, -, -, h8, h9⟩ := classification_spec n
  have hres : Ns.isReserved n = false ↔ maxPrimaryReservedNamespace < n ∧ n < minSecondaryReservedNamespace := by
    rw [← Bool.not_eq_true, h8, not_or, Decidable.not_not, Decidable.not_not]
  simp only [Ns.validateForBlob, Ns.validateForData, Bool.and_eq_true, Bool.not_eq_true', beq_iff_eq, h9, hres]
  constructor
  · rintro ⟨⟨-, hgt, -⟩, hv⟩
    exact ⟨hv, hgt⟩
  · rintro ⟨hv, hgt⟩
    -- a version-0 namespace is neither of the two 0xFF… namespaces, and lies below all of them
    refine ⟨⟨⟨?_, ?_⟩, hgt, lt_of_head_zero hv _⟩, hv⟩
    · rintro rfl; revert hv; decide
    · rintro rfl; revert hv; decide

/-- `validateVersionSupported` and `validateID` on `version :: id` -/
theorem validate_cons (v : UInt8) (id : Bytes) :
    Ns.validate (v :: id) = true ↔ id.length = 28 ∧ (v = 255 ∨ (v = 0 ∧ id.take 18 = List.replicate 18 0)) := by
  have h0 : v.toNat = 0 ↔ v = 0 := UInt8.toNat_inj (b := 0)
  have h255 : v.toNat = 255 ↔ v = 255 := UInt8.toNat_inj (b := 255)
  simp only [Ns.validate, Ns.version, Ns.id, List.headD_cons, Bool.and_eq_true,
    Bool.or_eq_true, beq_iff_eq, bne_iff_ne, ne_eq, h0, h255]
  by_cases hv : v = 0
  · subst hv; simp
  · simp only [hv, false_or, not_false_eq_true, true_or, and_true, false_and, or_false]
    exact And.comm

/-- **C18 (`NewNamespace` accepts exactly well-formed (version, id) pairs).** -/
theorem new_spec (v : UInt8) (id : Bytes) :
    Ns.new v id = (if id.length = 28 ∧ (v = 255 ∨ (v = 0 ∧ id.take 18 = List.replicate 18 0)) then some (v :: id) else none) := by
  simp only [Ns.new, validate_cons]

/-- **C18 (NewNamespaceFromBytes).** It accepts exactly the 29-byte strings passing `validate`, and returns them. -/
theorem fromBytes_spec (b : Bytes) :
    Ns.fromBytes b = (if b.length = 29 ∧ Ns.validate b = true then some b else none) := by
  simp [Ns.fromBytes]

/-- non-vacuity: a user namespace accepted, three reserved ones refused -/
example : Ns.validateForBlob (Ns.newV0 [1, 0]).get! = true := by decide +kernel
example : Ns.validateForBlob txNamespace = false ∧ Ns.validateForBlob primaryReservedPaddingNamespace = false ∧
    Ns.validateForBlob tailPaddingNamespace = false := by decide +kernel

/-- **C18 (AddInt is exact big-endian addition, with an error exactly on overflow / underflow).** At 29 bytes;
    `addInt_eq_some_iff` and `addInt_eq_none_iff` need only 8. -/
theorem addInt_spec (n r : Bytes) (val : Int) (hlen : n.length = 29)
    (hlo : -(2 ^ 63 : Int) ≤ val) (hhi : val < 2 ^ 63) :
    (Ns.addInt n val = some r ↔ r.length = n.length ∧ (beVal r : Int) = (beVal n : Int) + val) ∧
    (Ns.addInt n val = none ↔ (beVal n : Int) + val < 0 ∨ 256 ^ n.length ≤ (beVal n : Int) + val) :=
  have h8 : 8 ≤ n.length := hlen ▸ by decide
  ⟨addInt_eq_some_iff n r val h8 hlo hhi, addInt_eq_none_iff n val h8 hlo hhi⟩

/-- **C18 (adding the negation undoes it).** Not for `MinInt64`, whose negation is not an `int`. -/
theorem addInt_undo (n r : Bytes) (val : Int) (hlen : n.length = 29)
    (hlo : -(2 ^ 63 : Int) < val) (hhi : val < 2 ^ 63) (h : Ns.addInt n val = some r) :
    Ns.addInt r (-val) = some n := by
  have h8 : 8 ≤ n.length := hlen ▸ by decide
  obtain ⟨hl, hv⟩ := (addInt_eq_some_iff n r val h8 (Int.le_of_lt hlo) hhi).mp h
  exact (addInt_eq_some_iff r n (-val) (hl ▸ h8) (Int.neg_le_neg (Int.le_of_lt hhi)) (Int.neg_lt_of_neg_lt hlo)).mpr
    ⟨hl.symm, by rw [hv, Int.add_neg_cancel_right]⟩

end GoSquare.C18
