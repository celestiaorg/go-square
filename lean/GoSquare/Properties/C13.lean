import GoSquare.Proofs.Counter
/-! # C13 — share-count predictions equal what the encoders produce (counter and closed forms)

The counter and the closed forms (lemmas: Proofs/Counter.lean). The encoder side is `count_spec` /
`C09.writer_eq_spec` and `sparseSeq_length` / `toShares_length` (Proofs/Sparse.lean). -/
namespace GoSquare.C13

inductive Op where
  | add (n : Nat)
  | revert
  deriving Repr

def step (c : Counter) : Op → Counter
  | .add n => (c.add n).1
  | .revert => c.revert

/-- from `NewCompactShareCounter()` -/
def run (ops : List Op) : Counter := ops.foldl step {}

/-- what a history means: the data lengths still counted, and whether the last operation was an add. A revert
    cancels the add directly before it and otherwise does nothing ("only works the first time after an add",
    counter.go). -/
def effStep (s : List Nat × Bool) : Op → List Nat × Bool
  | .add n => (s.1 ++ [n], true)
  | .revert => if s.2 then (s.1.dropLast, false) else (s.1, false)

def eff (ops : List Op) : List Nat := (ops.foldl effStep ([], false)).1

/-- bytes of the transactions in a compact sequence: each is length-prefixed -/
def total (lens : List Nat) : Nat := (lens.map (fun n => n + uvarintLen n)).sum

theorem total_dropLast_add (a : List Nat) (n : Nat) : total (a ++ [n]).dropLast = total a := by
  simp

/-- the counter is at the position of the effective total, and one more revert would keep it so: this is what the
    remembered fields are for -/
def Inv (c : Counter) (s : List Nat × Bool) : Prop :=
  c.At (total s.1) ∧ c.revert.At (total (effStep s .revert).1)

theorem inv_step (c : Counter) (s : List Nat × Bool) (op : Op) (h : Inv c s) : Inv (step c op) (effStep s op) := by
  cases op with
  | add n =>
    obtain ⟨h1, h2, h3⟩ := Counter.add_at c (total s.1) n h.1
    have e : total (s.1 ++ [n]) = total s.1 + (n + uvarintLen n) := by simp [total]
    refine ⟨e ▸ h1, ?_⟩
    show (c.add n).1.revert.At (total (s.1 ++ [n]).dropLast)
    rw [total_dropLast_add]
    exact ⟨h2.trans h.1.1, h3.trans h.1.2⟩
  | revert =>
    -- a second revert restores the same fields and cancels nothing further
    have e : (effStep (effStep s .revert) .revert).1 = (effStep s .revert).1 := by
      obtain ⟨l, b⟩ := s; cases b <;> rfl
    exact ⟨h.2, e ▸ h.2⟩

theorem inv_run (ops : List Op) : Inv (run ops) (ops.foldl effStep ([], false)) := by
  suffices ∀ c s, Inv c s → Inv (ops.foldl step c) (ops.foldl effStep s) from
    this {} ([], false) ⟨⟨rfl, rfl⟩, rfl, rfl⟩
  induction ops with
  | nil => intro c s h; exact h
  | cons op ops ih => intro c s h; exact ih _ _ (inv_step c s op h)

/-- **C13 (counter, every history).** After any additions and single-step reverts the counter is where the total
    length of the effective transactions puts it. -/
theorem counter_history (ops : List Op) :
    (run ops).size = compactSharesNeeded (total (eff ops)) ∧
    (run ops).remainder = (posOf (total (eff ops))).2 := by
  have h := (inv_run ops).1
  exact ⟨by rw [h.size, sizeOf_eq_compactSharesNeeded]; rfl, h.2⟩

/-- **C13 (increment).** `Add` returns exactly the change of the share count, in every state. -/
theorem add_increment (c : Counter) (n : Nat) :
    (c.add n).2 = ((c.add n).1.size : Int) - (c.size : Int) := Counter.add_diff c n

/-- **C13 (revert).** A revert directly after an add restores share count and remainder. -/
theorem add_revert (c : Counter) (n : Nat) :
    ((c.add n).1.revert).shares = c.shares ∧ ((c.add n).1.revert).remainder = c.remainder :=
  ⟨rfl, rfl⟩

/-- **C13 (closed forms are exact inverses, compact).** `AvailableBytesFromCompactShares(n)` bytes need `n` shares by
    `CompactSharesNeeded` and one byte more needs `n + 1`, for `n ≥ 1`. -/
theorem compact_inverse (n : Nat) (hn : 1 ≤ n) :
    compactSharesNeeded (availableBytesFromCompactShares n) = n ∧
    compactSharesNeeded (availableBytesFromCompactShares n + 1) = n + 1 := by
  obtain ⟨m, rfl⟩ := Nat.exists_eq_add_one_of_ne_zero (Nat.ne_of_gt hn)
  rw [show availableBytesFromCompactShares (m + 1) = 478 * m + 474 from availableBytes_succ m 474 478,
    ← sizeOf_eq_compactSharesNeeded, ← sizeOf_eq_compactSharesNeeded, sizeOf_eq, sizeOf_eq,
    if_neg (Nat.succ_ne_zero _), if_neg (Nat.succ_ne_zero _)]
  -- `(478 m + 474 + 481) / 478 = m + 955 / 478`
  exact ⟨Nat.mul_add_div (by decide) m 955, Nat.mul_add_div (by decide) m 956⟩

/-- **C13 (closed forms are exact inverses, sparse).** The same for `AvailableBytesFromSparseShares` and
    `SparseSharesNeeded`. -/
theorem sparse_inverse (n : Nat) (hn : 1 ≤ n) :
    sparseSharesNeeded (availableBytesFromSparseShares n) = n ∧
    sparseSharesNeeded (availableBytesFromSparseShares n + 1) = n + 1 := by
  obtain ⟨m, rfl⟩ := Nat.exists_eq_add_one_of_ne_zero (Nat.ne_of_gt hn)
  unfold sparseSharesNeeded
  rw [show availableBytesFromSparseShares (m + 1) = 482 * m + 478 from availableBytes_succ m 478 482,
    sparseSharesNeededWithSigner_eq, sparseSharesNeededWithSigner_eq,
    if_neg (Nat.succ_ne_zero _), if_neg (Nat.succ_ne_zero _)]
  -- `(482 m + 478 + 485) / 482 = m + 963 / 482`
  exact ⟨Nat.mul_add_div (by decide) m 963, Nat.mul_add_div (by decide) m 964⟩

/-- non-vacuity: a cancelled add, a dead revert and a share overflow -/
example : eff [.add 100, .add 400, .revert, .revert, .add 500] = [100, 500] := by decide
example : (run [.add 100, .add 400, .revert, .revert, .add 500]).size = 2 := by
  simp [run, step, Counter.add, Counter.revert, Counter.advance, Counter.size, uvarintLen]

end GoSquare.C13
