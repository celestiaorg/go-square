import GoSquare.Model.Heap
import GoSquare.Proofs.Bytes
/-! # C17 — read-only operations do not modify their inputs (PARTIAL: heap model of the
accumulation pattern)

In a model of Go slices over one flat memory (`Model/Heap.lean`), the pattern all go-square readers collect payload
with — `var data []byte; for … { data = append(data, view...) }` (`parseSparseShares` appends the first payload to
`[]byte(nil)`: the `fix:` commit d78ca50) — never writes below the original heap size, whatever the capacities and
sharing of the views and the runtime's growth decisions. Not in the model: thread interleavings (the step to "no
data race" is the Go memory model) and the construct / commit paths, covered by the dynamic ALIAS stream only. -/
namespace GoSquare.C17
open GoSquare.Heap

/-- a slice that cannot alias the first `n` bytes: nil, or allocated at or above `n` -/
def Above (n : Nat) (h : Heap) (s : Slice) : Prop := s = nilSlice ∨ (n ≤ s.off ∧ s.InBounds h)

theorem inBounds_of_above {n : Nat} {h : Heap} {s : Slice} (hs : Above n h s) : s.InBounds h := by
  rcases hs with rfl | ⟨_, hb⟩
  · exact ⟨Nat.le_refl _, Nat.zero_le _⟩
  · exact hb

theorem load_length (h : Heap) (s : Slice) (hs : s.InBounds h) : (load h s).length = s.len := by
  obtain ⟨h1, h2⟩ := hs
  simp only [load, List.length_take, List.length_drop]; omega

theorem store_frame (h : Heap) (a : Nat) (xs : Bytes) (n : Nat) (hn : n ≤ a) (ha : a + xs.length ≤ h.length) :
    (store h a xs).take n = h.take n ∧ (store h a xs).length = h.length := by
  have hl : (h.take a).length = a := List.length_take_of_le (by omega)
  unfold store
  constructor
  · rw [List.append_assoc, List.take_append_of_le_length (hl.symm ▸ hn), List.take_take, Nat.min_eq_left hn]
  · rw [List.length_append, List.length_append, List.length_drop]; omega

/-- **C17 (one append).** `append` to a slice that is nil or allocated at or above `n` leaves the first `n` bytes of
    memory as they are, and returns such a slice again. -/
theorem goAppend_frame (h : Heap) (s : Slice) (xs : Bytes) (extra n : Nat) (hn : n ≤ h.length)
    (hs : Above n h s) :
    (goAppend h s xs extra).1.take n = h.take n ∧ h.length ≤ (goAppend h s xs extra).1.length ∧
    Above n (goAppend h s xs extra).1 (goAppend h s xs extra).2 := by
  unfold goAppend
  by_cases hfit : s.len + xs.length ≤ s.cap
  · rw [if_pos hfit]
    rcases hs with rfl | ⟨hoff, hlc, hin⟩
    · -- only the empty string fits into the nil slice: memory and slice stay as they are
      have hx : xs = [] := List.eq_nil_of_length_eq_zero (by simpa [nilSlice] using hfit)
      subst hx
      have hst : store h (nilSlice.off + nilSlice.len) [] = h := by simp [store]
      exact ⟨by rw [hst], by rw [hst]; exact Nat.le_refl _, Or.inl rfl⟩
    · obtain ⟨f1, f2⟩ := store_frame h (s.off + s.len) xs n (by omega) (by omega)
      exact ⟨f1, Nat.le_of_eq f2.symm, Or.inr ⟨hoff, hfit, f2 ▸ hin⟩⟩
  · rw [if_neg hfit]
    refine ⟨?_, ?_, Or.inr ⟨hn, Nat.le_add_right _ _, ?_⟩⟩
    · rw [List.append_assoc, List.take_append_of_le_length hn]
    · rw [List.append_assoc, List.length_append]; exact Nat.le_add_right _ _
    · show h.length + (s.len + xs.length + extra) ≤ (h ++ (load h s ++ xs) ++ zeros extra).length
      rw [List.length_append, List.length_append, List.length_append, zeros_length,
        load_length h s (inBounds_of_above hs)]
      exact Nat.le_of_eq (Nat.add_assoc ..).symm

/-- **C17 (accumulation pattern, every input layout).** With an accumulator that is nil or allocated at or above
    `n ≤ len(heap)`, the loop leaves the first `n` bytes of memory as they are, wherever the views lie. -/
theorem accumulate_frame : ∀ (views : List Slice) (h : Heap) (acc : Slice) (extras : List Nat) (n : Nat),
    n ≤ h.length → Above n h acc →
    (accumulate h acc views extras).1.take n = h.take n := by
  intro views
  induction views with
  | nil => intro _ _ _ _ _ _; rfl
  | cons v vs ih =>
    intro h acc extras n hn ha
    obtain ⟨f1, f2, f3⟩ := goAppend_frame h acc (load h v) (extras.headD 0) n hn ha
    simp only [accumulate]
    rw [ih _ _ extras.tail n (Nat.le_trans hn f2) f3, f1]

/-- **C17 (accumulator starting nil).** The instance the readers use (`var data []byte`). -/
theorem accumulate_from_nil_preserves_memory (views : List Slice) (h : Heap) (extras : List Nat) :
    (accumulate h nilSlice views extras).1.take h.length = h := by
  have := accumulate_frame views h nilSlice extras h.length (Nat.le_refl _) (Or.inl rfl)
  simpa using this

/-- `parseSparseShares` before commit d78ca50 (finding F6): accumulating into a *view* of the first share, with
    spare capacity behind it, overwrites the bytes that follow the view. -/
example :
    let h : Heap := [1, 2, 3, 4, 5, 6]
    let view0 : Slice := ⟨0, 2, 6⟩         -- bytes [1,2], capacity to the end of the buffer
    let view1 : Slice := ⟨4, 2, 2⟩
    (accumulate h view0 [view1] []).1 = [1, 2, 5, 6, 5, 6] := by decide +kernel

/-- non-vacuity: from nil, on the same memory -/
example :
    let h : Heap := [1, 2, 3, 4, 5, 6]
    let r := accumulate h nilSlice [⟨0, 2, 6⟩, ⟨4, 2, 2⟩] []
    r.1.take 6 = h ∧ load r.1 r.2 = [1, 2, 5, 6] := by decide +kernel

end GoSquare.C17
