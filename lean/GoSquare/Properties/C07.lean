import GoSquare.Proofs.C07Core
import GoSquare.Proofs.SpecLayout
/-! # C07 — Build and Construct are the specified layout function, byte for byte

`Spec.Layout` is an independent executable specification written from the layout rules (no counters,
no splitters, no in-place patching). `Proofs/C07Core.lean`: selection, estimate and side coincide;
`Proofs/StableSort.lean`: the specification's insertion sort and the code's stable sort give the
same order; `Proofs/SpecLayout.lean`: `Spec.layout` equals the closed form `squareOf` that
`Build`/`Construct` return. -/
namespace GoSquare.C07

/-- the order check of `Spec.construct` -/
theorem kinds_sorted (k : Bytes → Nat) (N bl : List Bytes) (h0 : ∀ r ∈ N, k r = 0) (h1 : ∀ r ∈ bl, k r = 1) :
    ((N ++ bl).map k).mergeSort (· ≤ ·) = (N ++ bl).map k := by
  apply List.mergeSort_of_pairwise
  rw [List.pairwise_map, List.pairwise_append]
  refine ⟨?_, ?_, ?_⟩
  · exact List.pairwise_of_forall_mem_list (fun a ha c hc => by rw [h0 a ha]; rfl)
  · exact List.pairwise_of_forall_mem_list (fun a ha c hc => by rw [h1 a ha, h1 c hc]; rfl)
  · intro a ha c hc; rw [h0 a ha]; rfl

/-- **C07 (`Build` = the specification)**: `Spec.build` returns the same square, byte for byte, and
    the same kept list; premises `DecValid dec`, `thr ≥ 1`, `max` a power of two, `478 * max² < 2^32`. -/
theorem build_is_the_specified_layout (dec : Bytes → Decoded) (hdec : DecValid dec) (txs : List Bytes) (max thr : Nat)
    (ht : 1 ≤ thr) (hcfg : Spec.validConfig max = true) (hsz : 478 * (max * max) < 4294967296)
    (sq kept : List Bytes) (h : build dec txs max thr = .ok (sq, kept)) :
    Spec.build dec txs max thr = some (sq, kept) := by
  obtain ⟨b0, b, n, bl, _, hnew, hloop, hexp, rfl, hk, _, _⟩ := build_ok h
  unfold Spec.build
  rw [hcfg, select_of_loop (SpecLayout.decOK_of_decValid dec hdec) ht hnew hloop]
  simp only [Bool.not_true]
  rw [hk.layout hdec ht hcfg hsz hexp, map_raw_toP]
  rfl

/-- **C07 (`Construct` = the specification)**: `Spec.construct` returns the same square; same premises. -/
theorem construct_is_the_specified_layout (dec : Bytes → Decoded) (hdec : DecValid dec) (txs : List Bytes) (max thr : Nat)
    (ht : 1 ≤ thr) (hcfg : Spec.validConfig max = true) (hsz : 478 * (max * max) < 4294967296)
    (sq : List Bytes) (h : construct dec txs max thr = .ok sq) :
    Spec.construct dec txs max thr = some sq := by
  obtain ⟨b0, b, n, bl, _, hnew, hloop, hexp, e, hk⟩ := construct_ok h
  unfold Spec.construct
  rw [hcfg, select_of_loop (SpecLayout.decOK_of_decValid dec hdec) ht hnew hloop]
  simp only [Bool.not_true, Bool.false_eq_true, if_false]
  split
  · rename_i hc
    exact (hc (by
      rw [e]
      exact (kinds_sorted _ n bl (fun r hr => by simp only [hk.normal r hr])
        (fun r hr => by simp only [hk.blobTx r hr])).symm)).elim
  · rw [if_neg (by rw [e]; simp), hk.layout hdec ht hcfg hsz hexp]

end GoSquare.C07
