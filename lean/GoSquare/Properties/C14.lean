import GoSquare.Proofs.C14Core
import GoSquare.Proofs.BuilderHistory
/-! # C14 — incremental APIs are history-independent

`Proofs/C14Core.lean` (namespace `GoSquare.C14`): the shares finally exported by a compact share
splitter depend only on the transactions written, not on exports or counts performed between
writes. `Proofs/BuilderHistory.lean`: the square finally exported by a builder depends only on
the accepted appends, not on exports, queries or refused appends interleaved between them, whatever
state a failing export or query leaves behind (`ErrState`). -/
namespace GoSquare.C14
open BuilderHistory

/-- **C14 (builder).** The finally exported square (or error) is the one a builder fed only the
    accepted appends exports. -/
theorem builder_export_depends_only_on_accepted_appends (err : Builder → BuilderHistory.Op → Builder)
    (herr : ∀ b op, ErrState b (err b op)) (max thr : Nat) (b0 : Builder) (h0 : Builder.new max thr = .ok b0)
    (ops : List BuilderHistory.Op) :
    (BuilderHistory.run err b0 ops).exportSquare.map (·.2) =
      (BuilderHistory.run err b0 (acceptedOps err b0 ops)).exportSquare.map (·.2) :=
  export_depends_only_on_accepted_of_kept err herr b0 [] [] (kept_new max thr b0 h0).1 ops

/-- **C14 (builder, two histories).** Histories with the same accepted appends export the same square. -/
theorem builder_same_accepted_same_export (err1 err2 : Builder → BuilderHistory.Op → Builder)
    (herr1 : ∀ b op, ErrState b (err1 b op)) (herr2 : ∀ b op, ErrState b (err2 b op))
    (max thr : Nat) (b0 : Builder) (h0 : Builder.new max thr = .ok b0) (ops1 ops2 : List BuilderHistory.Op)
    (h : acceptedOps err1 b0 ops1 = acceptedOps err2 b0 ops2) :
    (BuilderHistory.run err1 b0 ops1).exportSquare.map (·.2) = (BuilderHistory.run err2 b0 ops2).exportSquare.map (·.2) := by
  rw [builder_export_depends_only_on_accepted_appends err1 herr1 max thr b0 h0 ops1,
    builder_export_depends_only_on_accepted_appends err2 herr2 max thr b0 h0 ops2, h,
    run_appends_indep err1 err2 _ b0 (acceptedOps_isAppend err2 ops2 b0)]

end GoSquare.C14
