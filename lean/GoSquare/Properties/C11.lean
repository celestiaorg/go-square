import GoSquare.Proofs.CompactSub
import GoSquare.Properties.C09
/-! # C11 — compact shares parse correctly out of context

For every list of non-empty transactions, both compact namespaces, and EVERY contiguous sub-range
`[lo, hi)` of the specified (= exported, C09 `writer_eq_spec`) share sequence, `ParseTxs` of the
sub-range returns exactly the transactions that begin inside the range and are complete within
it, in order — including ranges that begin in a share lying wholly inside one long transaction
(reserved bytes 0: the share is skipped, F3) and ranges that end inside a length delimiter (F7). -/
namespace GoSquare.C11
open Spec

/-- the property's right-hand side as a plain filter: the transactions of `us` (the first starting at stream offset
    `pos`) that begin at or after `A` and end at or before `B` -/
def within (A B : Nat) : Nat → List Bytes → List Bytes
  | _, [] => []
  | pos, u :: us =>
    if A ≤ pos ∧ pos + uvarintLen u.length + u.length ≤ B then u :: within A B (pos + uvarintLen u.length + u.length) us
    else within A B (pos + uvarintLen u.length + u.length) us

/-- the same set, found the reader's way -/
def sub (A B : Nat) : Nat → List Bytes → List Bytes
  | _, [] => []
  | pos, u :: us =>
    if pos < A then sub A B (pos + uvarintLen u.length + u.length) us else prefixFit (B - pos) (u :: us)

theorem within_nil_of_lt (A B : Nat) : ∀ (us : List Bytes) (pos : Nat), B < pos → within A B pos us = []
  | [], _, _ => rfl
  | u :: us, pos, h => by
    rw [within, if_neg (by omega)]
    exact within_nil_of_lt A B us _ (by omega)

theorem within_eq_prefixFit (A B : Nat) : ∀ (us : List Bytes) (pos : Nat), A ≤ pos →
    within A B pos us = prefixFit (B - pos) us
  | [], _, _ => rfl
  | u :: us, pos, h => by
    have := uvarintLen_pos u.length
    rw [within, prefixFit]
    by_cases hfit : pos + uvarintLen u.length + u.length ≤ B
    · rw [if_pos ⟨h, hfit⟩, if_pos (by omega), within_eq_prefixFit A B us _ (by omega)]
      congr 2; omega
    · rw [if_neg (fun hc => hfit hc.2), if_neg (by omega)]
      exact within_nil_of_lt A B us _ (by omega)

theorem sub_eq_within (A B : Nat) : ∀ (us : List Bytes) (pos : Nat), sub A B pos us = within A B pos us
  | [], _ => rfl
  | u :: us, pos => by
    rw [sub]
    by_cases h : pos < A
    · rw [if_pos h, within, if_neg (by omega)]
      exact sub_eq_within A B us _
    · rw [if_neg h, within_eq_prefixFit A B (u :: us) pos (by omega)]

theorem within_sublist (A B : Nat) : ∀ (us : List Bytes) (pos : Nat), (within A B pos us).Sublist us
  | [], _ => List.Sublist.refl _
  | u :: us, pos => by
    rw [within]
    split
    · exact List.Sublist.cons_cons u (within_sublist A B us _)
    · exact List.Sublist.cons u (within_sublist A B us _)

theorem mem_within (A B : Nat) (u : Bytes) (vs us : List Bytes) (pos : Nat)
    (hA : A ≤ pos + (unitStream us).length)
    (hB : pos + (unitStream us).length + (uvarintLen u.length + u.length) ≤ B) :
    u ∈ within A B pos (us ++ u :: vs) := by
  induction us generalizing pos with
  | nil =>
    rw [List.nil_append, within, if_pos ⟨hA, by rw [Nat.add_assoc]; exact hB⟩]
    exact List.mem_cons_self
  | cons v us ih =>
    have hst : (unitStream (v :: us)).length = uvarintLen v.length + v.length + (unitStream us).length := by
      rw [unitStream_length, unitStream_length, List.map_cons, List.sum_cons]
    rw [hst, ← Nat.add_assoc pos, ← Nat.add_assoc pos] at hA hB
    rw [List.cons_append, within]
    split
    · exact List.mem_cons_of_mem _ (ih _ hA hB)
    · exact ih _ hA hB

/-- `R` is what the share loop collects (`extract_sub`); `pre` is the part of the stream before `us`. -/
theorem peel_sub (A B : Nat) : ∀ (us : List Bytes) (pre : Bytes) (z fuel : Nat) (R : Bytes),
    (∀ u ∈ us, u ≠ [] ∧ u.length < 2 ^ 63) →
    R = (match (unitStarts pre.length us).find? (fun s => decide (A ≤ s)) with
      | some s => ((pre ++ (unitStream us ++ zeros z)).drop s).take (B - s)
      | none => []) →
    R.length + 1 ≤ fuel → parseRawData fuel R [] = .ok (sub A B pre.length us) := by
  intro us
  induction us with
  | nil =>
    intro pre z fuel R _ hR hf
    subst hR
    obtain ⟨n, rfl⟩ : ∃ n, fuel = n + 1 := ⟨fuel - 1, by omega⟩
    rfl
  | cons u us ih =>
    intro pre z fuel R hu hR hf
    rw [sub]
    simp only [unitStarts, List.find?_cons] at hR
    by_cases h : pre.length < A
    · -- the unit begins before `A`: it belongs to `pre`
      have hl : (pre ++ (uvarint u.length ++ u)).length = pre.length + uvarintLen u.length + u.length := by
        rw [List.length_append, List.length_append, uvarint_length, Nat.add_assoc]
      rw [if_pos h, ← hl]
      rw [decide_eq_false (Nat.not_le.mpr h), ← hl] at hR
      refine ih _ z fuel R (fun x hx => hu x (by simp [hx])) ?_ hf
      rw [hR, unitStream_cons]
      simp only [List.append_assoc]
    · rw [if_neg h]
      rw [decide_eq_true (Nat.le_of_not_lt h)] at hR
      simp only [List.drop_left] at hR
      subst hR
      simpa using parseRawData_truncated (u :: us) z (B - pre.length) fuel [] hu hf

/-- **C11.** "Inside the range" is from the first payload byte of share `lo` to the last payload byte of share
    `hi - 1`. -/
theorem parse_subrange (ns : Bytes) (hc : CompactNs ns) (units : List Bytes) (hne : units ≠ [])
    (hu : C09.NonEmptyUnits units) (hlt : (unitStream units).length < 4294967296)
    (lo hi : Nat) (hlo : lo < hi) (hhi : hi ≤ (Spec.compactSeq ns units).length) :
    parseTxs (((Spec.compactSeq ns units).drop lo).take (hi - lo)) =
      .ok (within (compactOff lo) (compactOff hi) 0 units) := by
  obtain ⟨hb1, hb2⟩ := compactCount_bounds _ (unitStream_pos units hne)
  rw [compactSeq_count] at hhi
  rw [compactSeq_eq]
  generalize compactCount (unitStream units).length = n at hhi hb1 hb2 ⊢
  rw [← List.map_drop, ← List.map_take, List.range_eq_range', List.drop_range', List.take_range'_of_length_ge (by omega),
    Nat.zero_add, Nat.mul_one]
  have hex := extract_sub ns hc _ _ (unitStarts_sorted units 0).1 n hb1 hb2 (hi - lo) lo (by omega)
  rw [show lo + (hi - lo) = hi by omega] at hex
  rw [parseTxs_specShares ns hc _ _ lo (hi - lo) (by omega) _ hex, ← sub_eq_within]
  exact peel_sub (compactOff lo) (compactOff hi) units [] (compactOff n - (unitStream units).length) _ _ hu rfl (Nat.le_refl _)

/-- **C11 (nothing fabricated).** `ParseTxs` of any sub-range returns a sublist of the transactions written: none
    invented, order kept. -/
theorem parse_subrange_sublist (ns : Bytes) (hc : CompactNs ns) (units : List Bytes) (hne : units ≠ [])
    (hu : C09.NonEmptyUnits units) (hlt : (unitStream units).length < 4294967296)
    (lo hi : Nat) (hlo : lo < hi) (hhi : hi ≤ (Spec.compactSeq ns units).length) :
    ∃ r, parseTxs (((Spec.compactSeq ns units).drop lo).take (hi - lo)) = .ok r ∧ r.Sublist units :=
  ⟨_, parse_subrange ns hc units hne hu hlt lo hi hlo hhi, within_sublist _ _ units 0⟩

/-- **C11 on the model of the code**: sub-ranges of `Export()`. -/
theorem parse_subrange_of_export (ns : Bytes) (hc : CompactNs ns) (units : List Bytes) (hne : units ≠ [])
    (hu : C09.NonEmptyUnits units) (hlt : (unitStream units).length < 4294967296)
    (lo hi : Nat) (hlo : lo < hi) :
    ∃ c0 c shares, CompactSplitter.new ns 0 = .ok c0 ∧ units.foldlM (fun w t => w.writeTx t) c0 = .ok c ∧
      c.exportShares.map (·.2) = .ok shares ∧
      (hi ≤ shares.length → parseTxs ((shares.drop lo).take (hi - lo)) =
        .ok (within (compactOff lo) (compactOff hi) 0 units)) := by
  obtain ⟨c0, c, h0, h1, h2, _⟩ := C09.writer_eq_spec ns hc units hlt
  exact ⟨c0, c, _, h0, h1, h2, fun hhi => parse_subrange ns hc units hne hu hlt lo hi hlo hhi⟩

example : within 0 1000 0 [[1, 2, 3], [4, 5]] = [[1, 2, 3], [4, 5]] := by decide +kernel
example : within 1 1000 0 [[1, 2, 3], [4, 5]] = [[4, 5]] := by decide +kernel
example : within 0 6 0 [[1, 2, 3], [4, 5]] = [[1, 2, 3]] := by decide +kernel

end GoSquare.C11

namespace GoSquare.C11
/-- non-vacuity on real bytes: share 1 alone begins inside the 600-byte transaction and yields exactly the second -/
example : (match parseTxs (((Spec.compactSeq txNamespace [List.replicate 600 7, [1, 2]]).drop 1).take 1) with
    | .ok r => r == [[1, 2]] | .error _ => false) = true := by
  decide +kernel
example : (match parseTxs (((Spec.compactSeq txNamespace [List.replicate 600 7, [1, 2]]).drop 0).take 1) with
    | .ok r => r == [] | .error _ => false) = true := by
  decide +kernel
end GoSquare.C11
