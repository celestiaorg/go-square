import GoSquare.Model.Json
import GoSquare.Proofs.ProtoMsg
/-! Proofs about Model/Json.lean: each decoder piece reads back what the matching encoder piece wrote, whatever
follows; the member loop is followed through the member texts of a document by the relation `Reads`. -/
namespace GoSquare.JsonProofs
open GoSquare.Json GoSquare.Proto

/-- stands for itself in a JSON string (no quote, backslash or control character): `strBody` keeps it -/
abbrev Plain (c : UInt8) : Prop := c ≠ 34 ∧ c ≠ 92 ∧ ¬ (c < 32)

theorem alphabet {i : Nat} (h : i < 64) : decChar (encChar i) = some i ∧ encChar i ≠ 61 ∧ Plain (encChar i) :=
  (by decide : ∀ i : Fin 64, decChar (encChar i) = some i.val ∧ encChar i ≠ 61 ∧ Plain (encChar i)) ⟨i, h⟩

theorem core_full {c0 c1 c2 c3 : UInt8} {rest : Bytes} {a b c d : Nat} {r : Bytes} (h3 : c3 ≠ 61)
    (h0 : decChar c0 = some a) (h1 : decChar c1 = some b) (h2 : decChar c2 = some c) (h3' : decChar c3 = some d)
    (hr : b64DecodeCore rest = some r) :
    b64DecodeCore (c0 :: c1 :: c2 :: c3 :: rest) =
        some ((a * 4 + b / 16).toUInt8 :: (b % 16 * 16 + c / 4).toUInt8 :: (c % 4 * 64 + d).toUInt8 :: r) := by
  rw [b64DecodeCore]
  all_goals simp_all

theorem core_pad1 {c0 c1 c2 : UInt8} {a b c : Nat} (h2 : c2 ≠ 61)
    (h0 : decChar c0 = some a) (h1 : decChar c1 = some b) (h2' : decChar c2 = some c) :
    b64DecodeCore [c0, c1, c2, 61] = some [(a * 4 + b / 16).toUInt8, (b % 16 * 16 + c / 4).toUInt8] := by
  rw [b64DecodeCore]
  all_goals simp_all

theorem core_pad2 {c0 c1 : UInt8} {a b : Nat}
    (h0 : decChar c0 = some a) (h1 : decChar c1 = some b) :
    b64DecodeCore [c0, c1, 61, 61] = some [(a * 4 + b / 16).toUInt8] := by
  rw [b64DecodeCore, h0, h1]

theorem sextets {a b c : Nat} (ha : a < 256) (hb : b < 256) (hc : c < 256) :
    (a / 4 < 64 ∧ a % 4 * 16 + b / 16 < 64 ∧ b % 16 * 4 + c / 64 < 64 ∧ c % 64 < 64) ∧
    a / 4 * 4 + (a % 4 * 16 + b / 16) / 16 = a ∧
    (a % 4 * 16 + b / 16) % 16 * 16 + (b % 16 * 4 + c / 64) / 4 = b ∧
    (b % 16 * 4 + c / 64) % 4 * 64 + c % 64 = c := by omega

theorem b64Encode_spec (b : Bytes) : b64DecodeCore (b64Encode b) = some b ∧ ∀ c ∈ b64Encode b, Plain c := by
  fun_induction b64Encode b with
  | case1 a b c rest ih =>
    obtain ⟨⟨h0, h1, h2, h3⟩, ea, eb, ec⟩ := sextets a.toNat_lt b.toNat_lt c.toNat_lt
    obtain ⟨d0, -, p0⟩ := alphabet h0
    obtain ⟨d1, -, p1⟩ := alphabet h1
    obtain ⟨d2, -, p2⟩ := alphabet h2
    obtain ⟨d3, n3, p3⟩ := alphabet h3
    rw [core_full n3 d0 d1 d2 d3 ih.1, ea, eb, ec]
    simp only [UInt8.ofNat_toNat, List.forall_mem_cons]
    exact ⟨trivial, p0, p1, p2, p3, ih.2⟩
  | case2 a b =>
    -- a padded quantum is the full quantum with the missing bytes taken as 0
    have h := sextets (c := 0) a.toNat_lt b.toNat_lt (by decide)
    simp only [Nat.zero_div, Nat.add_zero] at h
    obtain ⟨⟨h0, h1, h2, -⟩, ea, eb, -⟩ := h
    obtain ⟨d0, -, p0⟩ := alphabet h0
    obtain ⟨d1, -, p1⟩ := alphabet h1
    obtain ⟨d2, n2, p2⟩ := alphabet h2
    rw [core_pad1 n2 d0 d1 d2, ea, eb]
    simp only [UInt8.ofNat_toNat, List.forall_mem_cons]
    exact ⟨trivial, p0, p1, p2, by decide, nofun⟩
  | case3 a =>
    have h := sextets (b := 0) (c := 0) a.toNat_lt (by decide) (by decide)
    simp only [Nat.zero_div, Nat.add_zero] at h
    obtain ⟨⟨h0, h1, -, -⟩, ea, -, -⟩ := h
    obtain ⟨d0, -, p0⟩ := alphabet h0
    obtain ⟨d1, -, p1⟩ := alphabet h1
    rw [core_pad2 d0 d1, ea]
    simp only [UInt8.ofNat_toNat, List.forall_mem_cons]
    exact ⟨trivial, p0, p1, by decide, by decide, nofun⟩
  | case4 => exact ⟨rfl, nofun⟩

theorem b64_roundtrip (b : Bytes) : b64Decode (b64Encode b) = some b := by
  obtain ⟨hdec, hplain⟩ := b64Encode_spec b
  -- nothing is skipped: line feed and carriage return are control characters
  have hf : (b64Encode b).filter (fun c => c != 10 && c != 13) = b64Encode b := by
    rw [List.filter_eq_self]
    intro c hc
    have h32 := (hplain c hc).2.2
    rw [Bool.and_eq_true, bne_iff_ne, bne_iff_ne]
    exact ⟨fun e => h32 (e ▸ by decide), fun e => h32 (e ▸ by decide)⟩
  rw [b64Decode, hf, hdec]

theorem b64Encode_injective (a b : Bytes) (h : b64Encode a = b64Encode b) : a = b := by
  have h1 := (b64Encode_spec a).1
  rw [h, (b64Encode_spec b).1] at h1
  exact (Option.some.inj h1).symm

theorem strBody_plain {s rest : Bytes} (h : ∀ c ∈ s, Plain c) : strBody (s ++ quote :: rest) = some (s, rest) := by
  induction s with
  | nil => simp [strBody]
  | cons c s ih =>
    obtain ⟨h1, h2, h3⟩ := h c (by simp)
    rw [List.cons_append, strBody, if_neg (show ¬ c = quote from h1), if_neg (not_or.mpr ⟨h2, h3⟩),
      ih (fun x hx => h x (by simp [hx]))]

theorem bytesValue_jsonOfBytes (b rest : Bytes) : bytesValue (jsonOfBytes b ++ rest) = .ok (some b, rest) := by
  have : jsonOfBytes b ++ rest = 34 :: (b64Encode b ++ quote :: rest) := by
    simp [jsonOfBytes, quote]
  rw [this, bytesValue]
  simp only [strBody_plain (b64Encode_spec b).2, b64_roundtrip]

theorem unmarshalBytes_jsonOfBytes (b : Bytes) : unmarshalBytes (jsonOfBytes b) = .ok (some b) := by
  have := bytesValue_jsonOfBytes b []
  rw [List.append_nil] at this
  simp [unmarshalBytes, this]

/-- whatever `Namespace.UnmarshalJSON` returns is a namespace that `NewNamespaceFromBytes` returns -/
theorem unmarshalNs_ok (doc ns : Bytes) (h : unmarshalNs doc = .ok ns) : ∃ b, Ns.fromBytes b = some ns := by
  unfold unmarshalNs at h
  split at h
  · split at h
    · next hns => cases h; exact ⟨_, hns⟩
    · cases h
  · cases h
  · cases h

theorem unmarshalShare_ok (doc s : Bytes) (h : unmarshalShare doc = .ok s) : s.length = 512 := by
  unfold unmarshalShare at h
  split at h
  · split at h
    · next hl => cases h; exact hl
    · cases h
  · cases h
  · cases h

theorem natToDigits_eq (n : Nat) :
    natToDigits n = if n < 10 then [(48 + n).toUInt8] else natToDigits (n / 10) ++ [(48 + n % 10).toUInt8] := by
  unfold natToDigits
  rw [Nat.toDigits_eq_if (by decide)]
  split
  · next h => simp [Nat.toNat_digitChar_of_lt_ten h]
  · have : n % 10 < 10 := Nat.mod_lt _ (by decide)
    simp [Nat.toNat_digitChar_of_lt_ten this]

theorem dig_toNat (k : Nat) (h : k < 10) : ((48 + k).toUInt8).toNat = 48 + k :=
  toUInt8_toNat_of_lt (by omega)

theorem isDig_dig (k : Nat) (h : k < 10) : 48 ≤ (48 + k).toUInt8 ∧ (48 + k).toUInt8 ≤ 57 := by
  rw [UInt8.le_iff_toNat_le, UInt8.le_iff_toNat_le, dig_toNat k h]
  exact ⟨Nat.le_add_right 48 k, Nat.add_le_add_left (Nat.le_of_lt_succ h) 48⟩

theorem natToDigits_spec (n : Nat) :
    natOfDigits (natToDigits n) = n ∧ (∀ c ∈ natToDigits n, 48 ≤ c ∧ c ≤ 57) ∧
      ∃ c t, natToDigits n = c :: t ∧ (0 < n → c ≠ 48) := by
  induction n using Nat.strongRecOn with
  | _ n ih =>
    rw [natToDigits_eq]
    split
    · next h =>
      refine ⟨?_, ?_, _, [], rfl, fun h0 he => ?_⟩
      · simp only [natOfDigits, List.foldl_cons, List.foldl_nil, dig_toNat n h, Nat.add_sub_cancel_left, Nat.zero_mul,
          Nat.zero_add]
      · intro c hc
        cases List.mem_singleton.mp hc
        exact isDig_dig n h
      · have := congrArg UInt8.toNat he
        rw [dig_toNat n h] at this
        exact Nat.ne_of_gt h0 (Nat.add_left_cancel this)
    · next h =>
      have h10 : 10 ≤ n := Nat.le_of_not_lt h
      have hm : n % 10 < 10 := Nat.mod_lt _ (by decide)
      obtain ⟨hval, hdig, c, t, he, hc⟩ := ih (n / 10) (Nat.div_lt_self (Nat.lt_of_lt_of_le (by decide) h10) (by decide))
      refine ⟨?_, ?_, c, t ++ [(48 + n % 10).toUInt8], by rw [he]; rfl, fun _ => hc (Nat.div_pos h10 (by decide))⟩
      · simp only [natOfDigits, List.foldl_append, List.foldl_cons, List.foldl_nil] at hval ⊢
        rw [hval, dig_toNat _ hm, Nat.add_sub_cancel_left, Nat.div_add_mod']
      · intro x hx
        rcases List.mem_append.mp hx with hx | hx
        · exact hdig x hx
        · cases List.mem_singleton.mp hx
          exact isDig_dig _ hm

/-- what may follow a member: the final `}` or a comma -/
def Follow (rest : Bytes) : Prop := rest = [125] ∨ ∃ r, rest = 44 :: r

theorem digits_append (d rest : Bytes) (hd : ∀ c ∈ d, 48 ≤ c ∧ c ≤ 57) (hf : Follow rest) :
    digits (d ++ rest) = (d, rest) := by
  induction d with
  | nil =>
    rcases hf with rfl | ⟨r, rfl⟩
    · rfl
    · rfl
  | cons c d ih =>
    rw [List.cons_append, digits, if_pos (hd c (by simp)), ih (fun x hx => hd x (by simp [hx]))]

theorem u32Value_natToDigits (n : Nat) (h0 : 0 < n) (hn : n < 4294967296) (rest : Bytes) (hf : Follow rest) :
    u32Value (natToDigits n ++ rest) = .ok (some n, rest) := by
  obtain ⟨hval, hdig, c, t, he, hc48⟩ := natToDigits_spec n
  have hdg := digits_append _ rest hdig hf
  rw [he] at hdg hval hdig ⊢
  unfold u32Value
  split
  · next heq =>
    -- not `null`: the first character is a digit
    cases (List.cons.inj heq).1
    exact absurd (hdig 110 (List.mem_cons_self ..)) (by decide)
  · rw [hdg]
    simp only [List.head?_cons, Option.some.injEq, hc48 h0, and_false, hval, hn]
    rcases hf with rfl | ⟨r, rfl⟩
    · rfl
    · rfl

theorem toList_loop_eq (bs : ByteArray) (i : Nat) (r : List UInt8) :
    ByteArray.toList.loop bs i r = r.reverse ++ bs.data.toList.drop i := by
  fun_induction ByteArray.toList.loop bs i r with
  | case1 i r h ih =>
    have h' : i < bs.data.toList.length := by rw [Array.length_toList]; exact h
    have hg : bs.get! i = bs.data.toList[i] := by simp [ByteArray.get!, h]
    rw [ih, List.drop_eq_getElem_cons h', hg, List.reverse_cons, List.append_assoc, List.singleton_append]
  | case2 i r h =>
    rw [List.drop_eq_nil_of_le (by rw [Array.length_toList]; exact Nat.le_of_not_lt h), List.append_nil]

theorem utf8_toList (cs : List Char) : (String.ofList cs).toUTF8.toList = cs.flatMap String.utf8EncodeChar := by
  rw [String.toUTF8_eq_toByteArray, String.toByteArray_ofList, List.utf8Encode, ByteArray.toList, toList_loop_eq]
  simp

/-! A string literal unifies with `String.ofList` of its characters, so `utf8_toList` rewrites it and `decide`
    computes on character literals. -/
theorem keyNamespaceId_plain : ∀ c ∈ keyNamespaceId, Plain c := by rw [keyNamespaceId, utf8_toList]; decide
theorem keyData_plain : ∀ c ∈ keyData, Plain c := by rw [keyData, utf8_toList]; decide
theorem keyShareVersion_plain : ∀ c ∈ keyShareVersion, Plain c := by rw [keyShareVersion, utf8_toList]; decide
theorem keyNamespaceVersion_plain : ∀ c ∈ keyNamespaceVersion, Plain c := by rw [keyNamespaceVersion, utf8_toList]; decide
theorem keySigner_plain : ∀ c ∈ keySigner, Plain c := by rw [keySigner, utf8_toList]; decide

theorem keys_distinct :
    keyData ≠ keyNamespaceId ∧ keySigner ≠ keyNamespaceId ∧ keySigner ≠ keyData ∧
    keyShareVersion ≠ keyNamespaceId ∧ keyShareVersion ≠ keyData ∧ keyShareVersion ≠ keySigner ∧
    keyNamespaceVersion ≠ keyNamespaceId ∧ keyNamespaceVersion ≠ keyData ∧ keyNamespaceVersion ≠ keySigner ∧
    keyNamespaceVersion ≠ keyShareVersion := by
  rw [keyData, keyNamespaceId, keySigner, keyShareVersion, keyNamespaceVersion,
    utf8_toList, utf8_toList, utf8_toList, utf8_toList, utf8_toList]
  decide

theorem member_shape (key v rest : Bytes) :
    quote :: (key ++ [quote, 58] ++ v) ++ rest = 34 :: (key ++ quote :: (58 :: (v ++ rest))) := by
  simp [quote]

theorem member_namespaceId (p : DecodedProto) (v rest : Bytes) :
    member p (quote :: (keyNamespaceId ++ [quote, 58] ++ jsonOfBytes v) ++ rest) =
      .ok ({ p with pb := { p.pb with namespaceId := v } }, rest) := by
  rw [member_shape]
  unfold member
  simp only [strBody_plain keyNamespaceId_plain, if_true, bytesValue_jsonOfBytes, Option.getD_some]

theorem member_data (p : DecodedProto) (v rest : Bytes) :
    member p (quote :: (keyData ++ [quote, 58] ++ jsonOfBytes v) ++ rest) =
      .ok ({ p with pb := { p.pb with data := v } }, rest) := by
  rw [member_shape]
  unfold member
  simp only [strBody_plain keyData_plain, keys_distinct, if_true, if_false, bytesValue_jsonOfBytes, Option.getD_some]

theorem member_signer (p : DecodedProto) (v : Bytes) (hv : v ≠ []) (rest : Bytes) :
    member p (quote :: (keySigner ++ [quote, 58] ++ jsonOfBytes v) ++ rest) =
      .ok ({ pb := { p.pb with signer := v }, signerEmptyNonNil := false }, rest) := by
  rw [member_shape]
  unfold member
  have hb : (some v == some ([] : Bytes)) = false := by simp [hv]
  simp only [strBody_plain keySigner_plain, keys_distinct, if_true, if_false, bytesValue_jsonOfBytes,
    Option.getD_some, hb]

theorem member_shareVersion (p : DecodedProto) (n : Nat) (h0 : 0 < n) (hn : n < 4294967296) (rest : Bytes) (hf : Follow rest) :
    member p (quote :: (keyShareVersion ++ [quote, 58] ++ natToDigits n) ++ rest) =
      .ok ({ p with pb := { p.pb with shareVersion := n } }, rest) := by
  rw [member_shape]
  unfold member
  simp only [strBody_plain keyShareVersion_plain, keys_distinct, if_true, if_false,
    u32Value_natToDigits n h0 hn rest hf, Option.getD_some]

theorem member_namespaceVersion (p : DecodedProto) (n : Nat) (h0 : 0 < n) (hn : n < 4294967296) (rest : Bytes) (hf : Follow rest) :
    member p (quote :: (keyNamespaceVersion ++ [quote, 58] ++ natToDigits n) ++ rest) =
      .ok ({ p with pb := { p.pb with namespaceVersion := n } }, rest) := by
  rw [member_shape]
  unfold member
  simp only [strBody_plain keyNamespaceVersion_plain, keys_distinct, if_true, if_false,
    u32Value_natToDigits n h0 hn rest hf, Option.getD_some]

/-- the member loop, entered with `p`, reads the member texts `ts` in turn and leaves `q`; a text is read whole
    whenever a comma or the final brace follows it -/
inductive Reads : DecodedProto → List Bytes → DecodedProto → Prop
  | nil (p : DecodedProto) : Reads p [] p
  | cons {p p' q : DecodedProto} {t : Bytes} {ts : List Bytes} :
      (∀ rest, Follow rest → member p (quote :: (t ++ rest)) = .ok (p', rest)) → Reads p' ts q →
      Reads p ((quote :: t) :: ts) q

theorem Reads.append {p q r : DecodedProto} {a b : List Bytes} (h1 : Reads p a q) (h2 : Reads q b r) :
    Reads p (a ++ b) r := by
  induction h1 with
  | nil => exact h2
  | cons hm _ ih => exact .cons hm (ih h2)

theorem members_reads {p q : DecodedProto} {ts : List Bytes} (h : Reads p ts q) (hne : ts ≠ []) :
    ∀ fuel, (joinComma ts).length < fuel → members fuel p (joinComma ts ++ [125]) = .ok q := by
  induction h with
  | nil => exact absurd rfl hne
  | @cons p p' q t ts hm hts ih =>
    intro fuel hf
    cases fuel with
    | zero => cases hf
    | succ fuel =>
      cases ts with
      | nil =>
        cases hts
        rw [joinComma, List.cons_append, members, hm [125] (Or.inl rfl)]
        rfl
      | cons t' ts' =>
        have shape : joinComma ((quote :: t) :: t' :: ts') = quote :: (t ++ 44 :: joinComma (t' :: ts')) := rfl
        rw [shape, List.length_cons, List.length_append, List.length_cons] at hf
        rw [shape, List.cons_append, List.append_assoc, List.cons_append, members, hm _ (Or.inr ⟨_, rfl⟩)]
        exact ih (List.cons_ne_nil _ _) fuel (by omega)

theorem unmarshalBlobProto_reads {ts : List Bytes} {q : DecodedProto} (h : Reads emptyProto ts q) :
    unmarshalBlobProto (123 :: (joinComma ts ++ [125])) = .ok q := by
  have hm := fun hne => members_reads h hne (123 :: (joinComma ts ++ [125])).length
    (by simp only [List.length_cons, List.length_append]; omega)
  cases h with
  | nil => rfl
  | cons _ hts =>
    -- not the document `{}`: it goes on with the quote of the first member
    cases hts <;> exact hm (List.cons_ne_nil _ _)

/-- `h0`: leaving out an empty (`omitempty`) member is right when setting the empty value changes nothing -/
theorem Reads.bytes {key : Bytes} {set : Bytes → DecodedProto → DecodedProto}
    (h : ∀ p v, v ≠ [] → ∀ rest, member p (quote :: (key ++ [quote, 58] ++ jsonOfBytes v) ++ rest) = .ok (set v p, rest))
    (p : DecodedProto) (v : Bytes) (h0 : set [] p = p) : Reads p (memberBytes key v) (set v p) := by
  unfold memberBytes
  split
  · next hv => rw [List.eq_nil_of_length_eq_zero hv, h0]; exact .nil p
  · next hv => exact .cons (fun rest _ => h p v (fun e => hv (by rw [e]; rfl)) rest) (.nil _)

theorem Reads.u32 {key : Bytes} {set : Nat → DecodedProto → DecodedProto}
    (h : ∀ p n, 0 < n → n < 4294967296 → ∀ rest, Follow rest →
      member p (quote :: (key ++ [quote, 58] ++ natToDigits n) ++ rest) = .ok (set n p, rest))
    (p : DecodedProto) (n : Nat) (hn : n < 4294967296) (h0 : set 0 p = p) : Reads p (memberU32 key n) (set n p) := by
  unfold memberU32
  split
  · next hz => rw [hz, h0]; exact .nil p
  · next hz => exact .cons (h p n (Nat.pos_of_ne_zero hz) hn) (.nil _)

/-- **C19.** `json.Unmarshal(json.Marshal(&p))` restores `p` and leaves no empty non-nil `Signer`: each field is
    either omitted, and then still at its zero value, or read back. -/
theorem blobProto_json_roundtrip (p : BlobProto) (hsv : p.shareVersion < 4294967296) (hnv : p.namespaceVersion < 4294967296) :
    unmarshalBlobProto (marshalBlobProto p) = .ok { pb := p, signerEmptyNonNil := false } :=
  unmarshalBlobProto_reads <|
    ((((Reads.bytes (fun d v _ => member_namespaceId d v) emptyProto p.namespaceId rfl).append
      (Reads.bytes (fun d v _ => member_data d v) _ p.data rfl)).append
      (Reads.u32 member_shareVersion _ p.shareVersion hsv rfl)).append
      (Reads.u32 member_namespaceVersion _ p.namespaceVersion hnv rfl)).append
      (Reads.bytes member_signer _ p.signer rfl)

theorem blob_json_roundtrip (b : Blob) (hb : C19.ProtoBlob b) : unmarshalBlob (marshalBlob b) = .ok b := by
  have hv : b.ver < 4294967296 := by rcases hb.valid.valid.ver with h | h <;> omega
  have hn : Ns.version b.ns < 4294967296 := Nat.lt_trans (b.ns.headD 0).toNat_lt (by decide)
  unfold unmarshalBlob marshalBlob
  rw [blobProto_json_roundtrip _ hv hn]
  simp [C19.fromProto_toProto b hb]

theorem unmarshalBlob_ok (doc : Bytes) (b : Blob) (h : unmarshalBlob doc = .ok b) : ∃ pb, Blob.fromProto pb = some b := by
  unfold unmarshalBlob at h
  split at h
  · split at h
    · cases h
    · split at h
      · next hb => cases h; exact ⟨_, hb⟩
      · cases h
  · cases h
  · cases h

end GoSquare.JsonProofs
