import GoSquare.Proofs.C12Core
import GoSquare.Proofs.Patched
import GoSquare.Proofs.BuildSquare
/-! # C12 (builder half) — `Builder.FindTxShareRange` is exact

Transaction `i` is reported as `[share of its first stream byte, share of its last + 1)`, the
pay-for-blob sequence starting right after the transaction sequence; other indexes are errors.
The loop, two share counters over the indexed sizes, is two plain counts (`fold_step`), each at the
closed-form position of the bytes counted (`Counter.count_at`); the result is read off the counter
of the unit's own sequence (`start_eq`, `end_eq`). -/
namespace GoSquare
open Builder Spec

namespace TxRange

/-- bytes of the stream before unit `i` -/
def before (sizes : List Nat) (i : Nat) : Nat := ((sizes.take i).map (fun n => uvarintLen n + n)).sum

def unitLen (n : Nat) : Nat := uvarintLen n + n

theorem before_zero (sizes : List Nat) : before sizes 0 = 0 := rfl

theorem before_succ (sizes : List Nat) (i : Nat) (h : i < sizes.length) :
    before sizes (i + 1) = before sizes i + unitLen sizes[i] := by
  rw [before, List.take_add_one, List.getElem?_eq_getElem h, List.map_append, List.sum_append]
  rfl

theorem unitLen_pos (n : Nat) : 1 ≤ unitLen n := Nat.le_add_right_of_le (uvarintLen_pos n)

open Counter (count)

theorem count_take (sizes : List Nat) (i : Nat) : (count {} (sizes.take i)).At (before sizes i) := by
  have := Counter.count_at (c := {}) (T := 0) ⟨rfl, rfl⟩ (sizes.take i)
  rwa [Nat.zero_add, List.map_congr_left fun n _ => Nat.add_comm n (uvarintLen n)] at this

/-- the step of the fold in `FindTxShareRange` -/
def step (ntx : Nat) (acc : Counter × Counter) (p : Nat × Nat) : Counter × Counter :=
  if p.1 < ntx then ((acc.1.add p.2).1, acc.2) else (acc.1, (acc.2.add p.2).1)

theorem fold_step (ntx : Nat) (l : List Nat) (off : Nat) (acc : Counter × Counter) :
    ((List.range' off l.length).zip l).foldl (step ntx) acc =
      (count acc.1 (l.take (ntx - off)), count acc.2 (l.drop (ntx - off))) := by
  induction l generalizing off acc with
  | nil => rw [List.take_nil, List.drop_nil]; rfl
  | cons x l ih =>
    rw [List.length_cons, List.range'_succ, List.zip_cons_cons, List.foldl_cons, ih, step, Nat.sub_add_eq]
    by_cases h : off < ntx
    · obtain ⟨k, hk⟩ := Nat.exists_eq_add_one_of_ne_zero (Nat.sub_ne_zero_of_lt h)
      rw [if_pos h, hk]; rfl
    · rw [if_neg h, Nat.sub_eq_zero_of_le (Nat.le_of_not_lt h)]; rfl

theorem fold_take (ntx : Nat) (l : List Nat) (k : Nat) (acc : Counter × Counter) :
    (((List.range l.length).zip l).take k).foldl (step ntx) acc =
      (count acc.1 ((l.take k).take ntx), count acc.2 ((l.take k).drop ntx)) := by
  rw [List.zip, List.take_zipWith, List.take_range, ← List.length_take, List.range_eq_range']
  exact fold_step ntx _ 0 acc

theorem fold_left (a p : List Nat) {i : Nat} (hi : i ≤ a.length) (acc : Counter × Counter) :
    (((List.range (a ++ p).length).zip (a ++ p)).take i).foldl (step a.length) acc =
      (count acc.1 (a.take i), acc.2) := by
  have hl : (a.take i).length ≤ a.length := Nat.le_trans (List.length_take_le i a) hi
  rw [fold_take, List.take_append_of_le_length hi, List.take_of_length_le hl, List.drop_of_length_le hl]
  rfl

theorem fold_right (a p : List Nat) (j : Nat) (acc : Counter × Counter) :
    (((List.range (a ++ p).length).zip (a ++ p)).take (a.length + j)).foldl (step a.length) acc =
      (count acc.1 a, count acc.2 (p.take j)) := by
  rw [fold_take, List.take_length_add_append, List.take_left, List.drop_left]

/-- what `FindTxShareRange` computes once the index is in range (`ntx` transactions, then wrapped PFBs) -/
def rangeOf (ntx : Nat) (sizes : List Nat) (ti : Nat) : Nat × Nat :=
  let (txC, pfbC) := (((List.range sizes.length).zip sizes).take ti).foldl (step ntx) ({}, {})
  let start : Int := ((txC.size + pfbC.size : Nat) : Int) - 1
  let sz := sizes.getD ti 0
  let (start, txC, pfbC) :=
    if ti < ntx then
      ((if txC.remainder = 0 then start + 1 else start), (txC.add sz).1, pfbC)
    else
      ((if pfbC.remainder = 0 then start + 1 else start), txC, (pfbC.add sz).1)
  (start.toNat, txC.size + pfbC.size)

theorem findTxShareRange_eq (b b' : Builder) (he : b.ensureExported = .ok b') (i : Int) :
    b.findTxShareRange i =
      if i < 0 then .error .err
      else if i.toNat ≥ b'.txs.length + b'.pfbs.length then .error .err
      else .ok (b', rangeOf b'.txs.length (b'.txs.map List.length ++ b'.pfbs.map (·.size)) i.toNat) := by
  unfold Builder.findTxShareRange
  rw [he]
  rfl

theorem findTxShareRange_nat (b b' : Builder) (he : b.ensureExported = .ok b') (ti : Nat)
    (h : ti < b'.txs.length + b'.pfbs.length) :
    b.findTxShareRange (ti : Int) =
      .ok (b', rangeOf b'.txs.length (b'.txs.map List.length ++ b'.pfbs.map (·.size)) ti) := by
  rw [findTxShareRange_eq b b' he, if_neg (Int.not_lt.mpr (Int.natCast_nonneg ti)), Int.toNat_natCast,
    if_neg (Nat.not_le.mpr h)]

theorem findTxShareRange_error (b b' : Builder) (he : b.ensureExported = .ok b') (i : Int)
    (h : i < 0 ∨ (b'.txs.length + b'.pfbs.length : Int) ≤ i) : b.findTxShareRange i = .error .err := by
  rw [findTxShareRange_eq b b' he]
  by_cases h0 : i < 0
  · rw [if_pos h0]
  · rw [if_neg h0, if_pos (by omega)]

theorem findTxShareRange_export (b b' : Builder) (sq : List Bytes) (hd : b.done = false)
    (h : b.exportSquare = .ok (b', sq)) (i : Int) :
    b.findTxShareRange i = b'.findTxShareRange i := by
  obtain ⟨h1, h2⟩ := ensureExported_of_export b b' sq hd h
  rw [findTxShareRange_eq b b' h1, findTxShareRange_eq b' b' h2]

/-- `size - 1`, or `size` when the unit starts a fresh share, is the number of full shares, i.e. the
    share of the unit's first byte (`S`: the shares of the other sequence that precede) -/
theorem start_eq (c : Counter) (S n : Nat) (hn : n = S + c.size) :
    (if c.remainder = 0 then (n : Int) - 1 + 1 else (n : Int) - 1).toNat = S + c.shares := by
  subst hn
  unfold Counter.size
  split
  · rw [Int.sub_add_cancel, Int.toNat_natCast]
  · rw [← Nat.add_assoc, Int.natCast_add_one, Int.add_sub_cancel, Int.toNat_natCast]

theorem end_eq (c : Counter) (X n : Nat) (h : c.At X) :
    (c.add n).1.size = C12.shareOf (X + unitLen n - 1) + 1 := by
  rw [(Counter.add_at c X n h).1.size, sizeOf_eq_compactSharesNeeded, Nat.add_comm n]
  exact C12.sharesNeeded_eq_shareOf_last _ (Nat.le_add_left_of_le (unitLen_pos n))

theorem rangeOf_left (a p : List Nat) {n : Nat} (hn : a.length = n) (i : Nat) (hi : i < a.length) :
    rangeOf n (a ++ p) i =
      (C12.shareOf (before a i), C12.shareOf (before a i + unitLen a[i] - 1) + 1) := by
  subst hn
  have h := count_take a i
  unfold rangeOf
  simp only [fold_left a p (Nat.le_of_lt hi), if_pos hi, List.getD_eq_getElem?_getD,
    List.getElem?_append_left hi, List.getElem?_eq_getElem hi,
    show ({} : Counter).size = 0 from rfl, Nat.add_zero]
  rw [start_eq _ 0 _ (Nat.zero_add _).symm, Nat.zero_add, h.1, end_eq _ _ _ h]
  rfl

theorem rangeOf_right (a p : List Nat) {n : Nat} (hn : a.length = n) (i : Nat) (hi : i < p.length) :
    rangeOf n (a ++ p) (n + i) =
      (compactSharesNeeded (before a n) + C12.shareOf (before p i),
       compactSharesNeeded (before a n) + C12.shareOf (before p i + unitLen p[i] - 1) + 1) := by
  subst hn
  have h1 := count_take a a.length
  rw [List.take_length] at h1
  have h2 := count_take p i
  unfold rangeOf
  simp only [fold_right, if_neg (Nat.not_lt.mpr (Nat.le_add_right _ _)), List.getD_eq_getElem?_getD,
    List.getElem?_append_right (Nat.le_add_right _ _), Nat.add_sub_cancel_left, List.getElem?_eq_getElem hi]
  rw [start_eq _ _ _ rfl, h2.1, end_eq _ _ _ h2, h1.size, sizeOf_eq_compactSharesNeeded]
  rfl

theorem findTxShareRange_exact_of_ensure (b b' : Builder) (he : b.ensureExported = .ok b')
    {N : List Bytes} {P : List Proto.IndexWrapper} (hN : b'.txs = N) (hP : b'.pfbs = P) (i : Nat) :
    (∀ (hi : i < N.length),
      b.findTxShareRange (i : Int) = .ok (b',
        C12.shareOf (before (N.map List.length) i),
        C12.shareOf (before (N.map List.length) i + unitLen (N[i]).length - 1) + 1)) ∧
    (∀ (hi : i < P.length),
      let T := compactSharesNeeded (before (N.map List.length) N.length)
      b.findTxShareRange ((N.length + i : Nat) : Int) = .ok (b',
        T + C12.shareOf (before (P.map (·.size)) i),
        T + C12.shareOf (before (P.map (·.size)) i + unitLen (P[i]).size - 1) + 1)) := by
  subst hN hP
  constructor
  · intro hi
    rw [findTxShareRange_nat b b' he i (Nat.lt_add_right _ hi),
      rangeOf_left _ _ (List.length_map _) i (by rw [List.length_map]; exact hi), List.getElem_map]
  · intro hi
    rw [findTxShareRange_nat b b' he _ (Nat.add_lt_add_left hi _),
      rangeOf_right _ _ (List.length_map _) i (by rw [List.length_map]; exact hi), List.getElem_map]

theorem before_eq_unitStream (us : List Bytes) (i : Nat) :
    before (us.map List.length) i = (unitStream (us.take i)).length := by
  unfold before
  rw [unitStream_length, ← List.map_take, List.map_map]
  rfl

theorem before_pfbs_eq_unitStream (W : List Proto.IndexWrapper) (i : Nat) :
    before (W.map (·.size)) i = (unitStream ((W.map (·.marshal)).take i)).length := by
  rw [← before_eq_unitStream, List.map_map]
  rfl

theorem txShares_eq (N : List Bytes) :
    compactSharesNeeded (before (N.map List.length) N.length) = (compactSeq txNamespace N).length := by
  rw [compactSeq_length, before_eq_unitStream, List.take_length]

/-- **C12 on a builder that has kept `N` and `B`**, not yet exported: the ranges in terms of the two
    compact sequences of `squareOf`, `W` being the marshalled wrappers with their recorded indexes. -/
theorem findTxShareRange_kept (b : Builder) (N : List Bytes) (B : List BlobTx) (hk : Kept b N B)
    (hv : ∀ t ∈ B, ∀ bl ∈ t.blobs, bl.BlobValid)
    (hsz : 478 * (b.maxSquareSize * b.maxSquareSize) < 4294967296)
    (hd : b.done = false) (b' : Builder) (sq : List Bytes) (h : b.exportSquare = .ok (b', sq)) :
    let W := (patched b.thr N B).map (·.marshal)
    let T := (compactSeq txNamespace N).length
    (∀ (i : Nat) (hi : i < N.length),
      b.findTxShareRange (i : Int) = .ok (b',
        C12.shareOf (unitStream (N.take i)).length,
        C12.shareOf ((unitStream (N.take i)).length + unitLen (N[i]).length - 1) + 1)) ∧
    (∀ (i : Nat) (hi : i < W.length),
      b.findTxShareRange ((N.length + i : Nat) : Int) = .ok (b',
        T + C12.shareOf (unitStream (W.take i)).length,
        T + C12.shareOf ((unitStream (W.take i)).length + unitLen (W[i]).length - 1) + 1)) ∧
    (∀ i : Int, i < 0 ∨ (N.length + B.length : Int) ≤ i → b.findTxShareRange i = .error .err) := by
  intro W T
  have he := (ensureExported_of_export b b' sq hd h).1
  obtain ⟨htx, hpf, _⟩ := hk.exported hv hsz h
  refine ⟨fun i hi => ?_, fun i hi => ?_, fun i hi => ?_⟩
  · rw [(findTxShareRange_exact_of_ensure b b' he htx hpf i).1 hi, before_eq_unitStream]
  · rw [(findTxShareRange_exact_of_ensure b b' he htx hpf i).2 (by rw [← List.length_map (·.marshal)]; exact hi),
      before_pfbs_eq_unitStream, txShares_eq]
    simp only [W, List.getElem_map]
    rfl
  · apply findTxShareRange_error b b' he
    rw [htx, hpf, patched_length]
    exact hi

theorem txShareRange_eq {dec : Bytes → Decoded} {txs : List Bytes} {max thr : Nat} {b0 : Builder}
    (hb0 : Builder.newWithTxs dec max thr txs = .ok b0) (i : Int) :
    txShareRange dec txs i max thr = (b0.findTxShareRange i).map (·.2) := by
  unfold txShareRange
  rw [hb0]
  show (b0.findTxShareRange i >>= _) = _
  cases b0.findTxShareRange i <;> rfl

/-- **C12 for `square.TxShareRange`**: as `findTxShareRange_kept`, the input being ordinary then blob
    transactions `N ++ bl`. -/
theorem txShareRange_spec (dec : Bytes → Decoded) (hdec : DecValid dec) (txs : List Bytes) (max thr : Nat)
    (hsz : 478 * (max * max) < 4294967296) (b0 : Builder) (hb0 : Builder.newWithTxs dec max thr txs = .ok b0) :
    ∃ N bl, txs = N ++ bl ∧ (∀ r ∈ N, dec r = .normal) ∧ (∀ r ∈ bl, dec r = .blobTx (decB dec r)) ∧
      ∀ (sq : List Bytes) (b1 : Builder), b0.exportSquare = .ok (b1, sq) →
        let W := (patched thr N (bl.map (decB dec))).map (·.marshal)
        let T := (compactSeq txNamespace N).length
        (∀ (i : Nat) (hi : i < N.length),
          txShareRange dec txs (i : Int) max thr = .ok (
            C12.shareOf (unitStream (N.take i)).length,
            C12.shareOf ((unitStream (N.take i)).length + unitLen (N[i]).length - 1) + 1)) ∧
        (∀ (i : Nat) (hi : i < W.length),
          txShareRange dec txs ((N.length + i : Nat) : Int) max thr = .ok (
            T + C12.shareOf (unitStream (W.take i)).length,
            T + C12.shareOf ((unitStream (W.take i)).length + unitLen (W[i]).length - 1) + 1)) ∧
        (∀ i : Int, i < 0 ∨ (txs.length : Int) ≤ i → txShareRange dec txs i max thr = .error .err) := by
  obtain ⟨_, N, bl, _, _, e, ⟨hk, rfl, rfl, hn, hbl⟩, hdone⟩ := newWithTxs_ok hb0
  refine ⟨N, bl, e, hn, hbl, fun sq b1 hexp => ?_⟩
  obtain ⟨m1, m2, m3⟩ := findTxShareRange_kept b0 N _ hk (kept_blobs hdec hbl) hsz hdone b1 sq hexp
  refine ⟨fun i hi => ?_, fun i hi => ?_, fun i hi => ?_⟩
  · rw [txShareRange_eq hb0, m1 i hi]; rfl
  · rw [txShareRange_eq hb0, m2 i hi]; rfl
  · rw [txShareRange_eq hb0, m3 i (by rw [e, List.length_append] at hi; rw [List.length_map]; exact hi)]; rfl

end TxRange
end GoSquare
