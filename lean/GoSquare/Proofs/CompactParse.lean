import GoSquare.Proofs.Compact
import GoSquare.Proofs.SparseParse
/-! The specified compact shares as the reader sees them: what the accessors return on share `j`,
    and the payloads as windows of the zero-padded unit stream. -/
namespace GoSquare
open Spec

/-- `L`: the sequence-length field, if any; `r`: the reserved bytes; `P`: the payload -/
theorem rawDataUsingReserved_of_cons {ns : Bytes} (hns : ns.length = 29) (hcn : isCompactNs ns = true) (st : Bool) (L P : Bytes) (r : Nat)
    (hL : L.length = if st then 4 else 0) (hr : r ≤ (ns ++ infoByte 0 st :: (L ++ (be32 r ++ P))).length) (hr2 : r < 512) :
    Share.rawDataUsingReserved (ns ++ infoByte 0 st :: (L ++ (be32 r ++ P))) =
      .ok (if r = 0 then [] else (ns ++ infoByte 0 st :: (L ++ (be32 r ++ P))).drop r) := by
  have hv : 0 ≤ 127 := Nat.zero_le _
  have hsl : ∀ (rest : Bytes) (a b : Nat), slice (ns ++ infoByte 0 st :: rest) (30 + a) (30 + b) = slice rest a b := by
    intro rest a b
    have e : (30 + a ≤ 30 + b ∧ 30 + b ≤ (ns ++ infoByte 0 st :: rest).length) ↔ (a ≤ b ∧ b ≤ rest.length) := by
      simp [hns]; omega
    simp only [slice, e, drop_of_cons hns, Nat.add_sub_add_left]
  unfold Share.rawDataUsingReserved Share.rawDataStartIndexUsingReserved
  simp only [start_of_cons hns _ _ _ hv, version_of_cons hns _ _ _ hv, isCompactShare_eq, ns_of_cons hns, hcn, if_true,
    show ((0 : Nat) == 1) = false from rfl, Bool.and_false, Bool.false_eq_true, if_false, Nat.add_zero, ← hL]
  rw [Nat.add_assoc, hsl, ← be32_length r, slice_inner, res_bind_ok, parseReserved_be32 r hr2, res_bind_ok]
  by_cases hz : r = 0
  · simp [hz]
  · simp only [hz, if_false, sliceFrom, if_neg (Nat.not_lt.mpr hr), if_pos hr]

theorem specShare_form (ns D : Bytes) (S : List Nat) (j : Nat) (hns : ns.length = 29) :
    specShare ns D S j = ns ++ infoByte 0 (j == 0) ::
      ((if j = 0 then be32 D.length else []) ++ (be32 (resOf S j) ++ compactPayload D j)) := by
  rw [specShare_eq, fill_rawShare ns _ D S j hns (be32_length _), hdrX_eq]
  simp only [List.append_assoc, List.cons_append, List.nil_append]

section
variable (ns : Bytes) (hc : CompactNs ns) (D : Bytes) (S : List Nat) (j : Nat)
include hc

theorem specShare_length : (specShare ns D S j).length = 512 := by
  rw [specShare_form ns D S j hc.len]
  by_cases hj : j = 0 <;> simp [hj, hc.len, compactPayload_length, compactCap]

theorem specShare_ns : Share.ns (specShare ns D S j) = ns := by
  rw [specShare_form ns D S j hc.len]; exact ns_of_cons hc.len _ _

theorem specShare_version : Share.version (specShare ns D S j) = 0 := by
  rw [specShare_form ns D S j hc.len]; exact version_of_cons hc.len _ _ _ (by omega)

theorem specShare_start : Share.isSequenceStart (specShare ns D S j) = (j == 0) := by
  rw [specShare_form ns D S j hc.len]; exact start_of_cons hc.len _ _ _ (by omega)

theorem specShare_seqLen (hlt : D.length < 4294967296) : Share.sequenceLen (specShare ns D S 0) = D.length := by
  rw [specShare_form ns D S 0 hc.len, sequenceLen_of_cons hc.len _ _ _ (by omega)]
  simpa using readBe32_be32 _ hlt _

theorem specShare_rawData : Share.rawData (specShare ns D S j) = compactPayload D j := by
  rw [specShare_form ns D S j hc.len, rawData_of_cons hc.len _ _ _ (by omega), hc.compact]
  by_cases hj : j = 0
  · subst hj; rw [← List.append_assoc]; exact List.drop_left' (by simp)
  · simp [hj]

theorem specShare_reserved : Share.rawDataUsingReserved (specShare ns D S j) =
    .ok (if resOf S j = 0 then [] else (compactPayload D j).drop (resOf S j - compactHdr j)) := by
  have hform := specShare_form ns D S j hc.len
  have hlen := specShare_length ns hc D S j
  rw [hform] at hlen ⊢
  rw [rawDataUsingReserved_of_cons hc.len hc.compact _ _ _ _ (by by_cases hj : j = 0 <;> simp [hj]) (by have := resOf_lt S j; omega) (resOf_lt S j),
    ← hform]
  by_cases hz : resOf S j = 0
  · rw [if_pos hz, if_pos hz]
  · -- behind the header and the reserved bytes lies the payload
    have hh := hdrX_length ns (be32 D.length) j hc.len (be32_length _)
    rw [if_neg hz, if_neg hz, specShare_eq, fill_rawShare ns _ D S j hc.len (be32_length _), List.drop_append,
      List.drop_of_length_le (by have := resOf_ge S j hz; simp only [List.length_append, be32_length]; omega), List.nil_append,
      List.length_append, be32_length, hh]

end

theorem compactSeq_shares (ns : Bytes) (hc : CompactNs ns) (units : List Bytes) :
    ∀ s ∈ compactSeq ns units, s.length = 512 ∧ Share.ns s = ns := by
  intro s hs
  obtain ⟨j, _, rfl⟩ := List.mem_map.mp hs
  exact ⟨specShare_length ns hc _ _ j, specShare_ns ns hc _ _ j⟩

theorem window_concat (L : Bytes) : ∀ (m j : Nat),
    ((List.range' j m).map (fun i => (L.drop (compactOff i)).take (compactCap i))).flatten =
      (L.drop (compactOff j)).take (compactOff (j + m) - compactOff j)
  | 0, j => by simp
  | m + 1, j => by
    have hs := compactOff_succ j
    have := compactOff_mono (show j + 1 ≤ j + 1 + m by omega)
    rw [List.range'_succ, List.map_cons, List.flatten_cons, window_concat L m (j + 1), hs, ← List.drop_drop, ← List.take_add,
      show j + (m + 1) = j + 1 + m by omega]
    congr 1; omega

/-- the unit stream padded with zeros up to the end of share `n - 1` -/
def padded (D : Bytes) (n : Nat) : Bytes := D ++ zeros (compactOff n - D.length)

theorem padded_length (D : Bytes) (n : Nat) (h : D.length ≤ compactOff n) : (padded D n).length = compactOff n := by
  simp [padded]; omega

theorem payload_window (D : Bytes) (n j : Nat) (hj : j < n) :
    compactPayload D j = ((padded D n).drop (compactOff j)).take (compactCap j) :=
  (take_drop_append_zeros D _ _ _ (by have := compactOff_lt hj; omega)).symm

theorem payload_concat (D : Bytes) (n m j : Nat) (h : j + m ≤ n) :
    ((List.range' j m).map (compactPayload D)).flatten =
      ((padded D n).drop (compactOff j)).take (compactOff (j + m) - compactOff j) := by
  rw [← window_concat]
  congr 1
  apply List.map_congr_left
  intro i hi
  exact payload_window D n i (by have := (List.mem_range'_1.mp hi).2; omega)

end GoSquare
