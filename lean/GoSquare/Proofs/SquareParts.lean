import GoSquare.Properties.C09
import GoSquare.Proofs.Patched
import GoSquare.Proofs.SquareWF
import GoSquare.Properties.C15
/-! What the theorems about `squareOf thr N B ss` need of the wrappers written into its pay-for-blob
    shares, and the bounds that follow from the estimate fitting the maximum square. -/
namespace GoSquare
open Spec

theorem unit_le_stream : ∀ (units : List Bytes) (u : Bytes), u ∈ units → u.length ≤ (unitStream units).length
  | [], _, h => by cases h
  | x :: xs, u, h => by
    simp only [unitStream, List.map_cons, List.flatten_cons, List.length_append] at *
    rcases List.mem_cons.mp h with rfl | h
    · omega
    · have := unit_le_stream xs u h
      simp only [unitStream] at this; omega

theorem marshal_ne_nil (iw : Proto.IndexWrapper) (h : iw.typeId = indexWrapperTypeId) : iw.marshal ≠ [] := by
  intro hc
  have := congrArg List.length hc
  unfold Proto.IndexWrapper.marshal at this
  simp only [h, Proto.encBytesField, List.length_nil] at this
  have h4 : ¬ (indexWrapperTypeId.length = 0) := by decide
  simp only [h4, if_false, List.length_append] at this
  omega

theorem pfbUnits_eq_nil_iff (thr : Nat) (N : List Bytes) (B : List BlobTx) :
    (patched thr N B).map (·.marshal) = [] ↔ B = [] := by
  rw [← List.length_eq_zero_iff, List.length_map, patched_length, List.length_eq_zero_iff]

theorem parseTxs_pfbShares (thr : Nat) (N : List Bytes) (B : List BlobTx) (hB : B ≠ [])
    (hst : (unitStream ((patched thr N B).map (·.marshal))).length < 4294967296) :
    parseTxs (compactSeq payForBlobNamespace ((patched thr N B).map (·.marshal))) =
      .ok ((patched thr N B).map (·.marshal)) := by
  refine C09.parse_spec payForBlobNamespace compactNs_pfb _ (fun h => hB ((pfbUnits_eq_nil_iff thr N B).mp h))
    (fun u hu => ?_) hst
  obtain ⟨iw, hiw, rfl⟩ := List.mem_map.mp hu
  have := unit_le_stream _ _ hu
  exact ⟨marshal_ne_nil iw (patched_typeId thr N B iw hiw), by omega⟩

theorem streams_lt (thr : Nat) (N : List Bytes) (B : List BlobTx) (m : Nat)
    (hfit : closedEstimate thr N B ≤ m) (hsz : 478 * m < 4294967296)
    (hpfb : (compactSeq payForBlobNamespace ((patched thr N B).map (·.marshal))).length ≤ pfbShareCount B) :
    (unitStream N).length < 4294967296 ∧
    (unitStream ((patched thr N B).map (·.marshal))).length < 4294967296 := by
  have := startOf_le_closedEstimate thr N B
  unfold startOf at this
  exact ⟨stream_lt_of_shares txNamespace N m (by rw [← txShareCount_eq]; omega) hsz,
    stream_lt_of_shares payForBlobNamespace _ m (by omega) hsz⟩

/-- `2 ^ 52`: up to there the float64 square root in `blobMinSquareSize` is exact (`C15.minSquare_least'`) -/
theorem side_of_fit (thr : Nat) (N : List Bytes) (B : List BlobTx) (max : Nat)
    (hmax : Nat.isPowerOfTwo max) (hfit : closedEstimate thr N B ≤ max * max) (hsz : 478 * (max * max) < 4294967296) :
    closedEstimate thr N B ≤ 2 ^ 52 ∧ Nat.isPowerOfTwo (blobMinSquareSize (closedEstimate thr N B)) ∧
    blobMinSquareSize (closedEstimate thr N B) ≤ max ∧
    blobMinSquareSize (closedEstimate thr N B) * blobMinSquareSize (closedEstimate thr N B) < 4294967296 := by
  have h52 : closedEstimate thr N B ≤ 2 ^ 52 := by omega
  obtain ⟨s1, _, s3⟩ := C15.minSquare_least' _ h52
  have s4 := s3 max hmax hfit
  exact ⟨h52, s1, s4, Nat.lt_of_le_of_lt (Nat.mul_le_mul s4 s4) (by omega)⟩

end GoSquare
