import GoSquare.Proofs.Nmt
import GoSquare.Proofs.ListLemmas
import GoSquare.Properties.C15
/-! # C05 — blob commitments computed in isolation match the square's row trees

For arbitrary leaf / node / empty hashes (no collision-resistance assumption): every subtree root
derived from the blob alone is an inner node of the namespaced Merkle tree of one square row over
the same shares, and the commitment is the caller's Merkle root of those roots. A mountain of a
blob at an aligned index is an aligned power-of-two block (`mountain_aligned`), which lies in one
row (`block_in_row`) and is an inner node (`Nmt.block_inner`). The hash bytes are compared with the
real library (COMMIT correspondence stream), not proved. -/
namespace GoSquare.C05
open GoSquare.Nmt GoSquare.C15

theorem prefix_dvd (l : List Nat) (hp : ∀ x ∈ l, Pow2 x) (hd : l.Pairwise (· ≥ ·)) (c : Nat) (hc : c < l.length) :
    l[c] ∣ (l.take c).sum := by
  apply dvd_sum
  intro x hx
  obtain ⟨i, hi, rfl⟩ := List.mem_iff_getElem.mp hx
  rw [List.length_take] at hi
  have hic : i < c := Nat.lt_of_lt_of_le hi (Nat.min_le_left _ _)
  have hil : i < l.length := Nat.lt_trans hic hc
  rw [List.getElem_take]
  exact pow2_dvd_of_le (hp _ (List.getElem_mem _)) (hp _ (List.getElem_mem _))
    ((List.pairwise_iff_getElem.mp hd) i c hil hc hic)

theorem mountain_aligned (k idx n thr : Nat) (hn1 : 1 ≤ n) (hn52 : n ≤ 2 ^ 52) (ht : 1 ≤ thr) (hnk : n ≤ 2 ^ k * 2 ^ k)
    (hal : subTreeWidth n thr ∣ idx) (c : Nat) (hc : c < (mmrSizes n (subTreeWidth n thr)).length) :
    ∃ j, (mmrSizes n (subTreeWidth n thr))[c] = 2 ^ j ∧ 2 ^ j ∣ 2 ^ k ∧
      2 ^ j ∣ idx + ((mmrSizes n (subTreeWidth n thr)).take c).sum ∧
      ((mmrSizes n (subTreeWidth n thr)).take c).sum + 2 ^ j ≤ n := by
  obtain ⟨wpow, wle, _, _⟩ := subTreeWidth_spec n thr hn1 hn52 ht
  obtain ⟨m1, m2, m3⟩ := mmr_spec n (subTreeWidth n thr) wpow (Nat.le_trans hn52 (by decide))
  -- the width is at most the minimal side for n, which is at most the side of any square holding n shares
  have hside : subTreeWidth n thr ≤ 2 ^ k := Nat.le_trans wle ((minSquare_least n hn1 hn52).2.2 _ ⟨k, rfl⟩ hnk)
  generalize subTreeWidth n thr = w at *
  generalize mmrSizes n w = sizes at *
  obtain ⟨⟨j, hj⟩, hsw⟩ := m1 _ (List.getElem_mem hc)
  -- the mountain divides the width, which divides the side and idx; it divides the mountains before it
  have hcw : sizes[c] ∣ w := pow2_dvd_of_le ⟨j, hj⟩ wpow hsw
  exact ⟨j, hj, hj ▸ Nat.dvd_trans hcw (pow2_dvd_of_le wpow ⟨k, rfl⟩ hside),
    hj ▸ Nat.dvd_add (Nat.dvd_trans hcw hal) (prefix_dvd sizes (fun x hx => (m1 x hx).1) m3 c hc),
    hj ▸ m2 ▸ take_sum_add_le sizes c hc⟩

variable {α D : Type} (leafH : α → D) (nodeH : D → D → D) (emptyH : D)

def row (sq : List α) (side r : Nat) : List α := (sq.drop (r * side)).take side

theorem row_length (sq : List α) (side r : Nat) (h : (r + 1) * side ≤ sq.length) : (row sq side r).length = side := by
  unfold row
  rw [List.length_take, List.length_drop, Nat.add_mul] at *
  omega

theorem row_slice (sq : List α) (side p m : Nat) (h : p % side + m ≤ side) :
    ((row sq side (p / side)).drop (p % side)).take m = (sq.drop p).take m := by
  unfold row
  rw [List.drop_take, List.drop_drop, List.take_take, Nat.mul_comm, Nat.div_add_mod,
    Nat.min_eq_left (Nat.le_sub_of_add_le' h)]

theorem same_row (side p m : Nat) (hm : 0 < m) (h : p % side + m ≤ side) : (p + m - 1) / side = p / side := by
  have := Nat.div_add_mod' p side
  apply Nat.div_eq_of_lt_le
  · omega
  · rw [Nat.add_mul]; omega

theorem block_in_row (sq : List α) (side j p : Nat) (hside : 0 < side) (hs : 2 ^ j ∣ side) (hp : 2 ^ j ∣ p)
    (hfit : p + 2 ^ j ≤ sq.length) :
    p % side + 2 ^ j ≤ side ∧
    Inner leafH nodeH emptyH (row sq side (p / side)) (p % side) (2 ^ j)
      (rootWith leafH nodeH emptyH ((sq.drop p).take (2 ^ j))) := by
  have hpm : 2 ^ j ∣ p % side := (Nat.dvd_mod_iff hs).mpr hp
  have hnc := aligned_fit hs hpm (Nat.mod_lt _ hside)
  refine ⟨hnc, ?_⟩
  rw [← row_slice sq side p (2 ^ j) hnc]
  apply block_inner leafH nodeH emptyH j _ _ _ rfl hpm
  -- the row is there as far as the block reaches, even if it is the last, incomplete one
  unfold row
  rw [List.length_take, List.length_drop]
  have := Nat.div_add_mod' p side
  exact Nat.le_min.mpr ⟨hnc, by omega⟩

/-- **C05 (structural core).** In a `2^k × 2^k` square an aligned block of `2^j` leaves lies in one
    row, and its root computed in isolation is an inner node of that row's tree. -/
theorem aligned_block_is_row_inner_node (sq : List α) (k j p : Nat)
    (hlen : sq.length = 2 ^ k * 2 ^ k) (hj : j ≤ k) (hp : 2 ^ j ∣ p) (hfit : p + 2 ^ j ≤ sq.length) :
    (p + 2 ^ j - 1) / 2 ^ k = p / 2 ^ k ∧
    Inner leafH nodeH emptyH (row sq (2 ^ k) (p / 2 ^ k)) (p % 2 ^ k) (2 ^ j)
      (rootWith leafH nodeH emptyH ((sq.drop p).take (2 ^ j))) := by
  have _ := hlen -- `hlen` is part of the property's statement; the proof does not need it
  obtain ⟨hnc, hin⟩ := block_in_row leafH nodeH emptyH sq (2 ^ k) j p (Nat.two_pow_pos k) (Nat.pow_dvd_pow 2 hj) hp hfit
  exact ⟨same_row _ p _ (Nat.two_pow_pos j) hnc, hin⟩

/-- **C05 (every subtree of a placed blob)**: the same of every mountain-range chunk of `n` shares
    placed at an index aligned to their subtree width. -/
theorem subtree_roots_are_row_inner_nodes (sq : List α) (k idx n thr : Nat)
    (hlen : sq.length = 2 ^ k * 2 ^ k) (hn1 : 1 ≤ n) (hn52 : n ≤ 2 ^ 52) (ht : 1 ≤ thr)
    (hal : subTreeWidth n thr ∣ idx) (hfit : idx + n ≤ sq.length)
    (c : Nat) (hc : c < (mmrSizes n (subTreeWidth n thr)).length) :
    let sizes := mmrSizes n (subTreeWidth n thr)
    let p := idx + (sizes.take c).sum
    (p + sizes[c] - 1) / 2 ^ k = p / 2 ^ k ∧
    Inner leafH nodeH emptyH (row sq (2 ^ k) (p / 2 ^ k)) (p % 2 ^ k) sizes[c]
      (rootWith leafH nodeH emptyH ((sq.drop p).take sizes[c])) := by
  obtain ⟨j, hj, hjk, hdp, hsum⟩ := mountain_aligned k idx n thr hn1 hn52 ht
    (hlen ▸ Nat.le_trans (Nat.le_add_left n idx) hfit) hal c hc
  dsimp only
  rw [hj]
  obtain ⟨hnc, hin⟩ := block_in_row leafH nodeH emptyH sq (2 ^ k) j _ (Nat.two_pow_pos k) hjk hdp
    (Nat.add_assoc .. ▸ Nat.le_trans (Nat.add_le_add_left hsum idx) hfit)
  exact ⟨same_row _ _ _ (Nat.two_pow_pos j) hnc, hin⟩

theorem chunks_length {β : Type} : ∀ (l : List β) (sizes : List Nat), (chunks l sizes).length = sizes.length
  | _, [] => rfl
  | l, s :: ss => by simp [chunks, chunks_length (l.drop s) ss]

/-- (C05) `chunks`: the chunking loop of `GenerateSubtreeRoots` -/
theorem chunks_getElem {β : Type} : ∀ (l : List β) (sizes : List Nat) (c : Nat) (hc : c < (chunks l sizes).length),
    (chunks l sizes)[c] = (l.drop (sizes.take c).sum).take (sizes[c]'(by rw [chunks_length] at hc; exact hc)) := by
  intro l sizes
  induction sizes generalizing l with
  | nil => intro c hc; cases hc
  | cons s ss ih =>
    intro c hc
    cases c with
    | zero => simp [chunks]
    | succ c =>
      simp only [chunks, List.getElem_cons_succ, List.take_succ_cons, List.sum_cons]
      rw [ih, List.drop_drop]

/-- **C05 (commitment).** Unfolds the model's `createCommitment`: roots and commitment are computed
    from the blob and the threshold alone, nothing of the square entering. -/
theorem commitment_is_merkle_root_of_subtree_roots (blob : Blob) (thr : Nat) {D' : Type} (merkleRoot : List Bytes → D')
    (roots : List Bytes) (h : generateSubtreeRoots blob thr = .ok roots) :
    createCommitment blob merkleRoot thr = .ok (merkleRoot roots) := by
  simp [createCommitment, h, bind, Except.bind]

/-- non-vacuity: 11 leaves at index 4 of an 8 × 8 square, threshold 3 (width 4, mountains 4,4,2,1) -/
example : subTreeWidth 11 3 ∣ 4 ∧ 4 + 11 ≤ 2 ^ 3 * 2 ^ 3 ∧ (mmrSizes 11 (subTreeWidth 11 3)).length = 4 := by decide +kernel

end GoSquare.C05
