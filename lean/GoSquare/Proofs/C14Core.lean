import GoSquare.Proofs.Compact
/-! C14, the splitter half (the builder half is `Proofs/BuilderHistory.lean`): for every interleaving of
    {WriteTx, Export, Count} on a compact share splitter, the shares finally exported are `Spec.compactSeq` of the
    transactions written. The Go code has this property from the `fix:` commit for F4 on: before it `Export` stacks
    the zero-padded pending share and a later write does not remove it. -/
namespace GoSquare.C14
open Spec

inductive Op where
  | write (tx : Bytes)
  | exp
  | count
  deriving Repr

def writes : List Op → List Bytes
  | [] => []
  | .write t :: ops => t :: writes ops
  | _ :: ops => writes ops

def step (c : CompactSplitter) : Op → Res CompactSplitter
  | .write t => c.writeTx t
  | .exp => c.exportShares.map (·.1)
  | .count => .ok c

def run (c : CompactSplitter) (ops : List Op) : Res CompactSplitter := ops.foldlM step c

/-- the invariant between operations: without the padded copy that an `Export` left behind, the splitter is in the
    specified state; and while `done` is set its share list is the specified sequence -/
def J (ns : Bytes) (c : CompactSplitter) (units : List Bytes) : Prop :=
  ∃ x, x.length = 4 ∧ Normal ns x c.reopen units ∧
    (c.done = true → c.shares = Spec.compactSeq ns units ∧ (unitStream units).length ≠ 0)

theorem writeTx_reopen (c : CompactSplitter) (t : Bytes) : c.writeTx t = c.reopen.writeTx t := by
  have : c.reopen.reopen = c.reopen := by
    unfold CompactSplitter.reopen
    by_cases h : c.done = true <;> simp [h]
  unfold CompactSplitter.writeTx
  rw [this]

/-- C14, the step: an operation preserves `J`, and an `Export` returns the specified sequence. -/
theorem J_step (ns : Bytes) (hc : CompactNs ns) (c : CompactSplitter) (units : List Bytes) (op : Op)
    (hJ : J ns c units) (hlt : (unitStream units).length < 4294967296) :
    ∃ c', step c op = .ok c' ∧ J ns c' (units ++ writes [op]) ∧
      (op = .exp → c.exportShares.map (·.2) = .ok (Spec.compactSeq ns units)) := by
  obtain ⟨x, hxl, hN, hdone⟩ := hJ
  cases op with
  | write t =>
    obtain ⟨c', hw, hN', _⟩ := writeTx_spec ns x hc c.reopen units t hN
    refine ⟨c', (writeTx_reopen c t).trans hw, ⟨x, hxl, ?_, ?_⟩, nofun⟩
    · rw [reopen_of_not_done c' hN'.1.done]; exact hN'
    · intro hd; rw [hN'.1.done] at hd; cases hd
  | count =>
    rw [show writes [Op.count] = [] from rfl, List.append_nil]
    exact ⟨c, rfl, ⟨x, hxl, hN, hdone⟩, nofun⟩
  | exp =>
    rw [show writes [Op.exp] = [] from rfl, List.append_nil]
    by_cases hd : c.done = true
    · -- a second `Export` returns the stored shares, of which there is at least one
      obtain ⟨hsh, hne⟩ := hdone hd
      have hlen : c.shares.length ≠ 0 := by
        rw [hsh, compactSeq_count]
        exact Nat.ne_of_gt (compactCount_pos (Nat.pos_of_ne_zero hne))
      have hex : c.exportShares = .ok (c, c.shares) := by
        simp [CompactSplitter.exportShares, CompactSplitter.isEmpty, hlen, hd]
      exact ⟨c, by simp [step, hex, Except.map], ⟨x, hxl, hN, hdone⟩, fun _ => by simp [hex, Except.map, hsh]⟩
    · have hd' : c.done = false := by simpa using hd
      rw [reopen_of_not_done c hd'] at hN
      obtain ⟨c', x', hex, hxl', hN', _, h5, h6⟩ := export_spec ns x hc c units hN hxl hlt
      refine ⟨c', by simp [step, hex, Except.map], ⟨x', hxl', hN', fun hdc => ?_⟩, fun _ => by simp [hex, Except.map]⟩
      by_cases hz : (unitStream units).length = 0
      · rw [h6 hz, hd'] at hdc; cases hdc
      · exact ⟨(h5 hz).2, hz⟩

theorem writes_append (a b : List Op) : writes (a ++ b) = writes a ++ writes b := by
  induction a with
  | nil => rfl
  | cons op a ih => cases op <;> simp [writes, ih]

theorem J_run (ns : Bytes) (hc : CompactNs ns) (ops : List Op) (c : CompactSplitter) (units : List Bytes)
    (hJ : J ns c units) (hlt : (unitStream (units ++ writes ops)).length < 4294967296) :
    ∃ c', run c ops = .ok c' ∧ J ns c' (units ++ writes ops) := by
  induction ops generalizing c units with
  | nil => exact ⟨c, rfl, (List.append_nil units).symm ▸ hJ⟩
  | cons op ops ih =>
    have hlt1 := Nat.lt_of_le_of_lt (unitStream_length_mono units _) hlt
    rw [show writes (op :: ops) = writes [op] ++ writes ops from writes_append [op] ops, ← List.append_assoc] at hlt ⊢
    obtain ⟨c1, h1, hJ1, -⟩ := J_step ns hc c units op hJ hlt1
    obtain ⟨c2, h2, hJ2⟩ := ih c1 _ hJ1 hlt
    exact ⟨c2, by rw [run, List.foldlM_cons, h1]; exact h2, hJ2⟩

/-- **C14 (compact share splitter, every history).** On a fresh splitter of a compact namespace, whatever `Export`s and
    `Count`s are interleaved with the `WriteTx`s, a final `Export` returns `Spec.compactSeq` of the transactions
    written, provided their stream stays below 2^32 bytes (the `uint32` sequence length). -/
theorem splitter_history_independent (ns : Bytes) (hc : CompactNs ns) (ops : List Op)
    (hlt : (unitStream (writes ops)).length < 4294967296) :
    ∃ c0 c, CompactSplitter.new ns 0 = .ok c0 ∧ run c0 ops = .ok c ∧
      c.exportShares.map (·.2) = .ok (Spec.compactSeq ns (writes ops)) := by
  obtain ⟨c0, hnew, hN0, _⟩ := new_spec ns hc
  have hJ0 : J ns c0 [] := ⟨zeros 4, by simp, by rw [reopen_of_not_done c0 hN0.1.done]; exact hN0,
    fun hd => by rw [hN0.1.done] at hd; cases hd⟩
  obtain ⟨c, hrun, hJ⟩ := J_run ns hc ops c0 [] hJ0 hlt
  obtain ⟨_, _, _, hex⟩ := J_step ns hc c (writes ops) .exp hJ hlt
  exact ⟨c0, c, hnew, hrun, hex rfl⟩

/-- C14 in the words of the property. -/
theorem same_writes_same_export (ns : Bytes) (hc : CompactNs ns) (ops₁ ops₂ : List Op) (hw : writes ops₁ = writes ops₂)
    (hlt : (unitStream (writes ops₁)).length < 4294967296) :
    ∃ c0 c₁ c₂, CompactSplitter.new ns 0 = .ok c0 ∧ run c0 ops₁ = .ok c₁ ∧ run c0 ops₂ = .ok c₂ ∧
      c₁.exportShares.map (·.2) = c₂.exportShares.map (·.2) := by
  obtain ⟨c0, c1, h0, h1, e1⟩ := splitter_history_independent ns hc ops₁ hlt
  obtain ⟨c0', c2, h0', h2, e2⟩ := splitter_history_independent ns hc ops₂ (by rw [← hw]; exact hlt)
  rw [h0] at h0'; cases h0'
  exact ⟨c0, c1, c2, h0, h1, h2, by rw [e1, e2, hw]⟩

theorem unitStream_mono (units : List Bytes) (t : Bytes) :
    (unitStream units).length ≤ (unitStream (units ++ [t])).length :=
  unitStream_length_mono units [t]

/-- non-vacuity: the history of F4 -/
example : writes [.write [1], .exp, .write [2], .count, .exp] = [[1], [2]] := rfl
example : CompactNs txNamespace := compactNs_tx

end GoSquare.C14
