import GoSquare.Model.Bytes
import GoSquare.Proofs.ListLemmas
/-! The byte-level primitives of Model/Bytes: the `Res` monad and checked slices, big-endian `uint32`, and Go's varints
    with their reader (`readUvarint_uvarint`, and what the reader does on a delimiter that is cut). -/
namespace GoSquare

theorem res_bind_ok {α β} (v : α) (f : α → Res β) : ((Except.ok v : Res α) >>= f) = f v := rfl

theorem res_bind_ok' {α β} {x : Res α} {f : α → Res β} {r : β} (h : (x >>= f) = .ok r) :
    ∃ a, x = .ok a ∧ f a = .ok r := by
  cases x with
  | error e => cases h
  | ok a => exact ⟨a, rfl, h⟩

theorem ok_of_guard {α} {c : Prop} [Decidable c] {e : Err} {m : Res α} {a : α}
    (h : (if c then .error e else m) = .ok a) : m = .ok a := by
  split at h
  · cases h
  · exact h

theorem not_of_guard {α} {c : Prop} [Decidable c] {e : Err} {m : Res α} {a : α}
    (h : (if c then .error e else m) = .ok a) : ¬ c :=
  fun hc => by rw [if_pos hc] at h; cases h

theorem mapError_ok {ε ε' α} (f : ε → ε') (v : α) : (Except.ok v : Except ε α).mapError f = .ok v := rfl

theorem slice_inner {α} (pre mid tail : List α) :
    slice (pre ++ (mid ++ tail)) pre.length (pre.length + mid.length) = .ok mid := by
  simp [slice]

theorem slice_prefix {α} (a b : List α) : slice (a ++ b) 0 a.length = .ok a := by
  simp [slice]

theorem sliceFrom_append {α} (a b : List α) : sliceFrom (a ++ b) a.length = .ok b := by
  simp [sliceFrom]

@[simp] theorem zeros_length (n : Nat) : (zeros n).length = n := by simp [zeros]

theorem take_drop_append_zeros (D : Bytes) (z o c : Nat) (h : o + c ≤ D.length + z) :
    ((D ++ zeros z).drop o).take c = (D.drop o).take c ++ zeros (c - ((D.drop o).take c).length) := by
  rw [zeros, List.drop_append, List.take_append, List.drop_replicate, List.take_replicate, List.length_take,
    List.length_drop, ← Nat.sub_eq_sub_min]
  congr 2
  -- what the window holds beyond `D` lies inside the zeros
  exact Nat.min_eq_left (by omega)

theorem take_fill_append (n : Nat) (d : Bytes) (k : Nat) :
    ∃ k', (d.take n ++ zeros (n - (d.take n).length)) ++ (d.drop n ++ zeros k) = d ++ zeros k' := by
  by_cases h : d.length ≤ n
  · refine ⟨n - d.length + k, ?_⟩
    rw [List.take_of_length_le h, List.drop_of_length_le h]
    simp [zeros]
  · refine ⟨k, ?_⟩
    rw [List.length_take, Nat.min_eq_left (Nat.le_of_not_le h), Nat.sub_self, zeros, List.replicate_zero, List.append_nil,
      ← List.append_assoc, List.take_append_drop]

theorem toUInt8_toNat_of_lt {n : Nat} (h : n < 256) : n.toUInt8.toNat = n := UInt8.toNat_ofNat_of_lt' h

@[simp] theorem be32_length (n : Nat) : (be32 n).length = 4 := by simp [be32]

def leVal : Bytes → Nat
  | [] => 0
  | b :: bs => b.toNat + 256 * leVal bs

/-- `PutUint32` writes `uint32(n)`: the four digits of `n % 256^4` to the base 256 -/
theorem leVal_be32_reverse (n : Nat) : leVal (be32 n).reverse = n % 4294967296 := by
  have digit (m : Nat) : (m % 256).toUInt8.toNat = m % 256 := toUInt8_toNat_of_lt (Nat.mod_lt _ (by decide))
  rw [show 4294967296 = 256 * (256 * (256 * 256)) from rfl, Nat.mod_mul, Nat.mod_mul, Nat.mod_mul,
    Nat.div_div_eq_div_mul, Nat.div_div_eq_div_mul]
  simp only [be32, List.reverse_cons, List.reverse_nil, List.nil_append, List.cons_append, leVal, digit, Nat.mul_zero,
    Nat.add_zero]

theorem readBe32_be32 (n : Nat) (h : n < 4294967296) (rest : Bytes) : readBe32 (be32 n ++ rest) = n := by
  have hv := leVal_be32_reverse n
  simp only [be32, List.reverse_cons, List.reverse_nil, List.nil_append, List.cons_append, leVal, readBe32] at hv ⊢
  omega

/-! Proofs about `uvarint` and `uvarintLen` go by the recursion the two share (`uvarintLen.induct`) and these four
    equations. -/

theorem uvarint_of_lt {n : Nat} (h : n < 128) : uvarint n = [n.toUInt8] := by
  rw [uvarint, if_pos h]

theorem uvarint_of_not_lt {n : Nat} (h : ¬ n < 128) : uvarint n = (n % 128 + 128).toUInt8 :: uvarint (n / 128) := by
  rw [uvarint, if_neg h]

theorem uvarintLen_of_lt {n : Nat} (h : n < 128) : uvarintLen n = 1 := by
  rw [uvarintLen, if_pos h]

theorem uvarintLen_of_not_lt {n : Nat} (h : ¬ n < 128) : uvarintLen n = 1 + uvarintLen (n / 128) := by
  rw [uvarintLen, if_neg h]

theorem uvarintLen_pos (n : Nat) : 1 ≤ uvarintLen n := by
  by_cases h : n < 128
  · exact Nat.le_of_eq (uvarintLen_of_lt h).symm
  · exact uvarintLen_of_not_lt h ▸ Nat.le_add_right ..

theorem uvarint_length (n : Nat) : (uvarint n).length = uvarintLen n := by
  induction n using uvarintLen.induct with
  | case1 n h => rw [uvarint_of_lt h, uvarintLen_of_lt h]; rfl
  | case2 n h ih => rw [uvarint_of_not_lt h, uvarintLen_of_not_lt h, List.length_cons, ih, Nat.add_comm]

theorem uvarintLen_mono (a b : Nat) (hab : a ≤ b) : uvarintLen a ≤ uvarintLen b := by
  induction a using uvarintLen.induct generalizing b with
  | case1 a ha => exact uvarintLen_of_lt ha ▸ uvarintLen_pos b
  | case2 a ha ih =>
    rw [uvarintLen_of_not_lt ha, uvarintLen_of_not_lt fun hb => ha (Nat.lt_of_le_of_lt hab hb)]
    exact Nat.add_le_add_left (ih _ (Nat.div_le_div_right hab)) 1

theorem uvarintLen_le_of_lt (k m : Nat) (hm : m < 128 ^ k) (hk : 1 ≤ k) : uvarintLen m ≤ k := by
  induction m using uvarintLen.induct generalizing k with
  | case1 m h => exact uvarintLen_of_lt h ▸ hk
  | case2 m h ih =>
    obtain ⟨k, rfl⟩ := Nat.exists_eq_add_of_le' hk
    have hk : 1 ≤ k := Nat.pos_of_ne_zero fun h0 => h (by rw [h0] at hm; exact hm)
    rw [uvarintLen_of_not_lt h, Nat.add_comm]
    exact Nat.succ_le_succ (ih k ((Nat.div_lt_iff_lt_mul (by decide)).2 hm) hk)

theorem uvarintLen_le_nine (n : Nat) (h : n < 2 ^ 63) : uvarintLen n ≤ 9 :=
  uvarintLen_le_of_lt 9 n h (by decide)

/-- a protobuf packed field is the varints of its values one after the other -/
theorem packed_length (l : List Nat) : ((l.map uvarint).flatten).length = (l.map uvarintLen).sum := by
  rw [List.length_flatten, List.map_map]
  exact congrArg List.sum (List.map_congr_left fun v _ => uvarint_length v)

theorem readUvarintAux_cont {m : Nat} (hm : m < 128) (rest : Bytes) {i : Nat} (hi : i < 10) (shift acc : Nat) :
    readUvarintAux ((m + 128).toUInt8 :: rest) i shift acc =
      readUvarintAux rest (i + 1) (shift + 7) (acc + m * 2 ^ shift) := by
  have hb : (m + 128).toUInt8.toNat = m + 128 := toUInt8_toNat_of_lt (Nat.add_lt_add_right hm 128)
  have h2 : ¬ (m + 128).toUInt8 < 128 := by
    rw [UInt8.lt_iff_toNat_lt, hb]
    exact Nat.not_lt.2 (Nat.le_add_left ..)
  rw [readUvarintAux, if_neg (Nat.not_le.2 hi), if_neg h2, hb, Nat.add_sub_cancel]

theorem readUvarintAux_last {m : Nat} (hm : m < 128) (rest : Bytes) {i : Nat} (hi : i < 10)
    (h9 : i = 9 → m ≤ 1) (shift acc : Nat) :
    readUvarintAux (m.toUInt8 :: rest) i shift acc = some (acc + m * 2 ^ shift, i + 1) := by
  have hb : m.toUInt8.toNat = m := toUInt8_toNat_of_lt (Nat.lt_trans hm (by decide))
  have h2 : m.toUInt8 < 128 := by rw [UInt8.lt_iff_toNat_lt, hb]; exact hm
  have h3 : ¬ (i = 9 ∧ m.toUInt8 > 1) := fun h => by
    have := h.2
    rw [gt_iff_lt, UInt8.lt_iff_toNat_lt, hb] at this
    exact Nat.not_le.2 this (h9 h.1)
  rw [readUvarintAux, if_neg (Nat.not_le.2 hi), if_pos h2, if_neg h3, hb]

/-- `≤ 9`, not 10: a tenth byte is accepted only if it is 0 or 1; nine bytes reach `2^63`. -/
theorem readUvarintAux_uvarint (n : Nat) (rest : Bytes) (i shift acc : Nat) (hi : i + uvarintLen n ≤ 9) :
    readUvarintAux (uvarint n ++ rest) i shift acc = some (acc + n * 2 ^ shift, i + uvarintLen n) := by
  induction n using uvarintLen.induct generalizing i shift acc with
  | case1 n h =>
    rw [uvarintLen_of_lt h] at hi ⊢
    rw [uvarint_of_lt h, List.singleton_append, readUvarintAux_last h _ (by omega) (by omega)]
  | case2 n h ih =>
    rw [uvarintLen_of_not_lt h] at hi ⊢
    rw [uvarint_of_not_lt h, List.cons_append, readUvarintAux_cont (Nat.mod_lt _ (by decide)) _ (by omega),
      ih _ _ _ (by omega), Nat.add_assoc i, Nat.add_assoc acc, Nat.pow_add, Nat.mul_comm (2 ^ shift), ← Nat.mul_assoc,
      ← Nat.add_mul]
    -- `n % 128 + n / 128 * 128 = n`, times the common factor `2 ^ shift`
    exact congrArg (fun x => some (acc + x * 2 ^ shift, _)) (Nat.mod_add_div' n 128)

/-- `binary.ReadUvarint` reads back what `binary.PutUvarint(n)` wrote, whatever follows. -/
theorem readUvarint_uvarint (n : Nat) (h : n < 2 ^ 63) (rest : Bytes) :
    readUvarint (uvarint n ++ rest) = some (n, uvarintLen n) := by
  have := readUvarintAux_uvarint n rest 0 0 0 (by have := uvarintLen_le_nine n h; omega)
  simpa [readUvarint] using this

/-- a delimiter cut after `L` bytes and zero padded, as `parseDelimiter` pads it: the first zero reads as the final
    byte, one byte more than the input held -/
theorem readUvarintAux_cut (rest : Bytes) (L n i shift acc : Nat) (hL : L < uvarintLen n) (hi : i + L ≤ 9) :
    ∃ v, readUvarintAux ((uvarint n).take L ++ 0 :: rest) i shift acc = some (v, i + L + 1) := by
  induction L generalizing n i shift acc with
  | zero => exact ⟨_, readUvarintAux_last (m := 0) (by decide) rest (by omega) (fun _ => by decide) shift acc⟩
  | succ L ih =>
    by_cases h : n < 128
    · rw [uvarintLen_of_lt h] at hL; omega
    · rw [uvarintLen_of_not_lt h] at hL
      obtain ⟨v, hv⟩ := ih (n / 128) (i + 1) (shift + 7) (acc + n % 128 * 2 ^ shift) (by omega) (by omega)
      exact ⟨v, by rw [uvarint_of_not_lt h, List.take_succ_cons, List.cons_append,
        readUvarintAux_cont (Nat.mod_lt _ (by decide)) _ (by omega), hv, Nat.add_right_comm i 1 L, Nat.add_assoc i L 1]⟩

theorem readUvarintAux_bound (bs : Bytes) (i acc v n : Nat) (ha : acc < 128 ^ i)
    (h : readUvarintAux bs i (7 * i) acc = some (v, n)) : v < 128 ^ n ∧ i < n := by
  induction bs generalizing i acc with
  | nil => cases h
  | cons b rest ih =>
    -- one more group of 7 bits on top of `acc`
    have step : ∀ d, d < 128 → acc + d * 2 ^ (7 * i) < 128 ^ (i + 1) := fun d hd => by
      have := Nat.mul_le_mul_right (128 ^ i) (Nat.le_of_lt_succ hd)
      rw [show 2 ^ (7 * i) = 128 ^ i from Nat.pow_mul 2 7 i]; omega
    rw [readUvarintAux] at h
    by_cases h1 : i ≥ 10
    · rw [if_pos h1] at h; cases h
    rw [if_neg h1] at h
    by_cases h2 : b < 128
    · rw [if_pos h2] at h
      by_cases h3 : i = 9 ∧ b > 1
      · rw [if_pos h3] at h; cases h
      · rw [if_neg h3] at h; cases h
        exact ⟨step _ (UInt8.lt_iff_toNat_lt.mp h2), Nat.lt_succ_self _⟩
    · rw [if_neg h2] at h
      have := ih (i + 1) _ (step _ (by have := b.toNat_lt; omega)) h
      exact ⟨this.1, Nat.lt_of_succ_lt this.2⟩

end GoSquare
