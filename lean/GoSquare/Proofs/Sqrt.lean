import GoSquare.Proofs.Arith
/-! The float bridge of C15: `int(math.Ceil(math.Sqrt(float64(n))))` with a correctly rounded
    binary64 square root equals the exact integer ceiling square root for every `n ≤ 2^52`.
    All arithmetic is over `Nat` on scaled integers; no reals. -/
namespace GoSquare

def ceilSqrt (n : Nat) : Nat := if Nat.sqrt n * Nat.sqrt n = n then Nat.sqrt n else Nat.sqrt n + 1

theorem ceilSqrt_le_iff (n m : Nat) : ceilSqrt n ≤ m ↔ n ≤ m * m := by
  unfold ceilSqrt
  have a1 := Nat.sqrt_le n
  have a2 := Nat.lt_succ_sqrt n
  generalize Nat.sqrt n = r at a1 a2 ⊢
  constructor
  · intro h
    split at h
    · exact Nat.le_trans (Nat.le_of_eq (Eq.symm ‹_›)) (Nat.mul_self_le_mul_self h)
    · exact Nat.le_of_lt (Nat.lt_of_lt_of_le a2 (Nat.mul_self_le_mul_self h))
  · intro h
    split
    · exact Nat.mul_self_le_mul_self_iff.mp (by omega)
    · exact Nat.mul_self_lt_mul_self_iff.mp (show r * r < m * m by omega)

/-- up to `2^52` the root is within reach of the 64-bit doubling loop that follows it -/
theorem ceilSqrt_le (n : Nat) (h : n ≤ 2 ^ 52) : ceilSqrt n ≤ 2 ^ 63 :=
  Nat.le_trans ((ceilSqrt_le_iff n (2 ^ 26)).2 h) (by decide)

theorem f64OfNat_exact (n : Nat) (h : n < 2 ^ 53) : f64OfNat n = n := by
  unfold f64OfNat
  by_cases h0 : n = 0
  · simp [h0]
  · have : Nat.log2 n < 53 := (Nat.log2_lt h0).mpr h
    rw [if_pos (Or.inr (by omega))]

theorem sqrt_scaled {x r P : Nat} (hP : 0 < P) (h1 : r * r ≤ x) (h2 : x < (r + 1) * (r + 1)) :
    r * P ≤ Nat.sqrt (x * (P * P)) ∧ Nat.sqrt (x * (P * P)) < (r + 1) * P := by
  have sq : ∀ a : Nat, (a * P) * (a * P) = a * a * (P * P) := fun a => Nat.mul_mul_mul_comm ..
  constructor
  · apply Nat.le_of_lt_succ
    apply Nat.mul_self_lt_mul_self_iff.mp
    rw [sq]
    exact Nat.lt_of_le_of_lt (Nat.mul_le_mul_right _ h1) (Nat.lt_succ_sqrt _)
  · apply Nat.mul_self_lt_mul_self_iff.mp
    rw [sq]
    exact Nat.lt_of_le_of_lt (Nat.sqrt_le _) (Nat.mul_lt_mul_of_lt_of_le h2 (Nat.le_refl _) (Nat.mul_pos hP hP))

/-- Rounding `√x·P` to the nearest integer and then taking `⌈·/P⌉` gives `⌈√x⌉` as long as `P` exceeds `⌊√x⌋`: a
    root that is not an integer is then too far from one to be rounded onto it. -/
theorem ceil_round_sqrt {x r P : Nat} (h1 : r * r ≤ x) (h2 : x < (r + 1) * (r + 1))
    (hP : 0 < P) (hrP : r * r ≠ x → r < P) :
    ((if x * (P * P) - Nat.sqrt (x * (P * P)) * Nat.sqrt (x * (P * P)) > Nat.sqrt (x * (P * P))
        then Nat.sqrt (x * (P * P)) + 1 else Nat.sqrt (x * (P * P))) + P - 1) / P
      = if r * r = x then r else r + 1 := by
  obtain ⟨qlo, qhi⟩ := sqrt_scaled hP h1 h2
  have qsq := Nat.sqrt_le (x * (P * P))
  have sq : (r * P) * (r * P) = r * r * (P * P) := Nat.mul_mul_mul_comm ..
  generalize Nat.sqrt (x * (P * P)) = q at qlo qhi qsq ⊢
  by_cases hsq : r * r = x
  · have hq : q = r * P := Nat.le_antisymm (Nat.mul_self_le_mul_self_iff.mp (by rw [sq, hsq]; exact qsq)) qlo
    rw [if_pos hsq, hq, sq, hsq, Nat.sub_self]
    exact ceilDiv_eq (Nat.lt_add_of_pos_right hP) (Nat.le_refl _)
  · rw [if_neg hsq]
    refine ceilDiv_eq (Nat.succ_mul r P ▸ Nat.add_lt_add_right ?_ P) ?_
    · split
      · exact Nat.lt_succ_of_le qlo
      · -- were `q = r·P`, the remainder `(x - r²)·P²` would be at least `P² > r·P`: rounded up
        apply Nat.lt_of_le_of_ne qlo
        intro hq
        have hx : (r * r + 1) * (P * P) ≤ x * (P * P) := Nat.mul_le_mul_right _ (Nat.lt_of_le_of_ne h1 hsq)
        have hPP : r * P < P * P := Nat.mul_lt_mul_of_lt_of_le (hrP hsq) (Nat.le_refl _) hP
        rw [Nat.add_mul, ← sq, hq] at hx
        omega
    · split
      · exact qhi
      · exact Nat.le_of_lt qhi

/-- C15, the float bridge. The bound is sharp: `C15.minSquare_beyond`. -/
theorem ceilSqrtF64_exact (x : Nat) (hx1 : 1 ≤ x) (hx : x ≤ 2 ^ 52) : ceilSqrtF64 x = ceilSqrt x := by
  have hx0 : x ≠ 0 := by omega
  unfold ceilSqrtF64 ceilSqrt
  simp only [hx0]
  have h1 := Nat.sqrt_le x
  have h2 := Nat.lt_succ_sqrt x
  generalize Nat.sqrt x = r0 at h1 h2 ⊢
  have hr0 : r0 ≠ 0 := by rintro rfl; omega
  -- the scale `2^s` is at least `2^26`, hence above `r0` unless `x = 2^52`
  have hs : r0 * r0 ≠ x → r0 < 2 ^ (53 - (Nat.log2 r0 + 1)) := by
    intro hne
    have hlt : r0 < 2 ^ 26 := by
      apply Nat.mul_self_lt_mul_self_iff.mp
      calc r0 * r0 < x := Nat.lt_of_le_of_ne h1 hne
        _ ≤ 2 ^ 26 * 2 ^ 26 := hx
    have : Nat.log2 r0 < 26 := (Nat.log2_lt hr0).2 hlt
    exact Nat.lt_of_lt_of_le hlt (Nat.pow_le_pow_right (by omega) (by omega))
  generalize 53 - (Nat.log2 r0 + 1) = s at hs ⊢
  have h4 : 4 ^ s = 2 ^ s * 2 ^ s := by rw [← Nat.mul_pow]
  rw [h4]
  exact ceil_round_sqrt h1 h2 (Nat.two_pow_pos s) hs

theorem ceilSqrtF64_f64OfNat (n : Nat) (h : n ≤ 2 ^ 52) : ceilSqrtF64 (f64OfNat n) = ceilSqrt n := by
  rw [f64OfNat_exact n (Nat.lt_of_le_of_lt h (by decide))]
  by_cases h0 : n = 0
  · subst h0; rfl
  · exact ceilSqrtF64_exact n (by omega) h

end GoSquare
