import GoSquare.Properties.C02
import GoSquare.Properties.C03
import GoSquare.Properties.C06
import GoSquare.Properties.C07
import GoSquare.Proofs.ProtoMsg
/-! # The decoder hypotheses are local to the input list

`build` and `construct`, and their specifications, call the blob-transaction decoder only on the
elements of `txs` (`build_congr`, `construct_congr`). The main theorems (C02, C03, C06, C07) assume
`DecValid dec` / `C03.DecUser dec` for all byte strings, which the modelled real decoder
`unmarshalBlobTx` does not satisfy (it does not validate blob namespaces). Here each is restated with
`DecValidOn dec txs` / `DecUserOn dec txs`, by transport along `restrict dec txs`; and these hold of
`unmarshalBlobTx` on ordinary transactions and `MarshalBlobTx` outputs of valid parts. -/
namespace GoSquare.DecLocal
open Builder Spec

theorem buildLoop_congr (dec dec' : Bytes → Decoded) (txs : List Bytes) (h : ∀ t ∈ txs, dec t = dec' t) :
    ∀ (b : Builder) (n bl : List Bytes), buildLoop dec txs b n bl = buildLoop dec' txs b n bl := by
  induction txs with
  | nil => intro b n bl; rfl
  | cons t rest ih =>
    intro b n bl
    simp only [buildLoop, ← h t List.mem_cons_self, ih (fun u hu => h u (List.mem_cons_of_mem _ hu))]

theorem appendAll_congr (dec dec' : Bytes → Decoded) (txs : List Bytes) (h : ∀ t ∈ txs, dec t = dec' t) :
    ∀ (b : Builder) (seen : Bool), appendAll dec txs b seen = appendAll dec' txs b seen := by
  induction txs with
  | nil => intro b seen; rfl
  | cons t rest ih =>
    intro b seen
    simp only [appendAll, ← h t List.mem_cons_self, ih (fun u hu => h u (List.mem_cons_of_mem _ hu))]

theorem build_congr (dec dec' : Bytes → Decoded) (txs : List Bytes) (max thr : Nat)
    (h : ∀ t ∈ txs, dec t = dec' t) : build dec txs max thr = build dec' txs max thr := by
  unfold build
  simp only [buildLoop_congr dec dec' txs h]

theorem construct_congr (dec dec' : Bytes → Decoded) (txs : List Bytes) (max thr : Nat)
    (h : ∀ t ∈ txs, dec t = dec' t) : construct dec txs max thr = construct dec' txs max thr := by
  unfold construct Builder.newWithTxs
  simp only [appendAll_congr dec dec' txs h]

theorem spec_select_congr (dec dec' : Bytes → Decoded) (max thr : Nat) (txs : List Bytes)
    (h : ∀ t ∈ txs, dec t = dec' t) :
    ∀ (n : List Bytes) (p : List PTx), Spec.select dec max thr txs n p = Spec.select dec' max thr txs n p := by
  induction txs with
  | nil => intro n p; rfl
  | cons t rest ih =>
    intro n p
    simp only [Spec.select, ← h t List.mem_cons_self, ih (fun u hu => h u (List.mem_cons_of_mem _ hu))]

theorem spec_build_congr (dec dec' : Bytes → Decoded) (txs : List Bytes) (max thr : Nat)
    (h : ∀ t ∈ txs, dec t = dec' t) : Spec.build dec txs max thr = Spec.build dec' txs max thr := by
  unfold Spec.build
  rw [spec_select_congr dec dec' max thr txs h]

theorem spec_construct_congr (dec dec' : Bytes → Decoded) (txs : List Bytes) (max thr : Nat)
    (h : ∀ t ∈ txs, dec t = dec' t) : Spec.construct dec txs max thr = Spec.construct dec' txs max thr := by
  unfold Spec.construct
  -- the `match` written here is a copy of the one in `Spec.construct`: for Lean another auxiliary
  -- function, equal to it by `rfl`
  rw [spec_select_congr dec dec' max thr txs h,
    List.map_congr_left (g := fun t => match dec' t with | .normal => 0 | _ => 1) (fun t ht => by rw [h t ht]; rfl)]
  rfl

def DecValidOn (dec : Bytes → Decoded) (txs : List Bytes) : Prop :=
  ∀ t ∈ txs, ∀ bt, dec t = .blobTx bt → ∀ b ∈ bt.blobs, b.BlobValid

def DecUserOn (dec : Bytes → Decoded) (txs : List Bytes) : Prop :=
  ∀ t ∈ txs, ∀ bt, dec t = .blobTx bt → ∀ b ∈ bt.blobs, UserNs b.ns

theorem decValidOn_of_decValid {dec : Bytes → Decoded} (h : DecValid dec) (txs : List Bytes) : DecValidOn dec txs :=
  fun t _ bt hbt => h t bt hbt

theorem decUserOn_of_decUser {dec : Bytes → Decoded} (h : C03.DecUser dec) (txs : List Bytes) : DecUserOn dec txs :=
  fun t _ bt hbt => h t bt hbt

def restrict (dec : Bytes → Decoded) (txs : List Bytes) : Bytes → Decoded :=
  fun t => if t ∈ txs then dec t else .normal

theorem restrict_agrees (dec : Bytes → Decoded) (txs : List Bytes) : ∀ t ∈ txs, restrict dec txs t = dec t :=
  fun _ ht => if_pos ht

theorem restrict_blobTx {dec : Bytes → Decoded} {txs : List Bytes} {t : Bytes} {bt : BlobTx}
    (h : restrict dec txs t = .blobTx bt) : t ∈ txs ∧ dec t = .blobTx bt := by
  unfold restrict at h
  split at h
  · exact ⟨‹_›, h⟩
  · cases h

theorem decValid_restrict {dec : Bytes → Decoded} {txs : List Bytes} (h : DecValidOn dec txs) :
    DecValid (restrict dec txs) :=
  fun t bt hbt => h t (restrict_blobTx hbt).1 bt (restrict_blobTx hbt).2

theorem decUser_restrict {dec : Bytes → Decoded} {txs : List Bytes} (h : DecUserOn dec txs) :
    C03.DecUser (restrict dec txs) :=
  fun t bt hbt => h t (restrict_blobTx hbt).1 bt (restrict_blobTx hbt).2

theorem build_restrict (dec : Bytes → Decoded) (txs : List Bytes) (max thr : Nat) :
    build (restrict dec txs) txs max thr = build dec txs max thr :=
  build_congr _ _ txs max thr (restrict_agrees dec txs)

theorem construct_restrict (dec : Bytes → Decoded) (txs : List Bytes) (max thr : Nat) :
    construct (restrict dec txs) txs max thr = construct dec txs max thr :=
  construct_congr _ _ txs max thr (restrict_agrees dec txs)

theorem decB_restrict (dec : Bytes → Decoded) (txs : List Bytes) (t : Bytes) (ht : t ∈ txs) :
    decB (restrict dec txs) t = decB dec t := by
  unfold decB
  rw [restrict_agrees dec txs t ht]

theorem canon_restrict (dec : Bytes → Decoded) (pfbDec : Bytes → Res (List Nat)) (txs : List Bytes) (t : Bytes)
    (ht : t ∈ txs) (h : CanonBlobTx dec pfbDec t) : CanonBlobTx (restrict dec txs) pfbDec t := by
  have e := decB_restrict dec txs t ht
  obtain ⟨h1, h2, h3, h4, h5, h6⟩ := h
  exact ⟨by rw [e, restrict_agrees dec txs t ht]; exact h1, by rwa [e], by rwa [e], by rwa [e], by rwa [e], by rwa [e]⟩

/-! Each `…_on` theorem is the theorem of that name (C02, C03, C06, C07) at the decoder `restrict dec txs`. -/

theorem build_wellformed_on (dec : Bytes → Decoded) (txs : List Bytes) (hdec : DecValidOn dec txs)
    (hus : DecUserOn dec txs) (max thr : Nat) (hmax : Nat.isPowerOfTwo max)
    (hsz : 478 * (max * max) < 4294967296) (sq kept : List Bytes)
    (h : build dec txs max thr = .ok (sq, kept)) : C03.WellFormed max sq :=
  C03.build_wellformed (restrict dec txs) (decValid_restrict hdec) (decUser_restrict hus) txs max thr hmax hsz sq kept
    ((build_restrict dec txs max thr).trans h)

theorem construct_wellformed_on (dec : Bytes → Decoded) (txs : List Bytes) (hdec : DecValidOn dec txs)
    (hus : DecUserOn dec txs) (max thr : Nat) (hmax : Nat.isPowerOfTwo max)
    (hsz : 478 * (max * max) < 4294967296) (sq : List Bytes)
    (h : construct dec txs max thr = .ok sq) : C03.WellFormed max sq :=
  C03.construct_wellformed (restrict dec txs) (decValid_restrict hdec) (decUser_restrict hus) txs max thr hmax hsz sq
    ((construct_restrict dec txs max thr).trans h)

theorem deconstruct_construct_on (dec : Bytes → Decoded) (pfbDec : Bytes → Res (List Nat)) (txs : List Bytes)
    (hdec : DecValidOn dec txs) (hus : DecUserOn dec txs) (max thr : Nat) (hmax : Nat.isPowerOfTwo max)
    (hsz : 478 * (max * max) < 4294967296)
    (hord : ∀ t ∈ txs, dec t = .normal → t ≠ [] ∧ t.length < 2 ^ 63)
    (hcanon : ∀ t ∈ txs, dec t = .blobTx (decB dec t) → CanonBlobTx dec pfbDec t)
    (sq : List Bytes) (h : construct dec txs max thr = .ok sq) : deconstruct sq pfbDec = .ok txs :=
  C02.deconstruct_construct (restrict dec txs) pfbDec (decValid_restrict hdec) (decUser_restrict hus) txs max thr hmax hsz
    (fun t ht hn => hord t ht ((restrict_agrees dec txs t ht).symm.trans hn))
    (fun t ht hb => canon_restrict dec pfbDec txs t ht
      (hcanon t ht (by rw [← restrict_agrees dec txs t ht, ← decB_restrict dec txs t ht]; exact hb)))
    sq ((construct_restrict dec txs max thr).trans h)

theorem build_returns_no_error_on (dec : Bytes → Decoded) (txs : List Bytes) (hdec : DecValidOn dec txs)
    (hall : ∀ t ∈ txs, dec t ≠ .badBlobTx) (max thr : Nat) (ht : 1 ≤ thr)
    (hcfg : isPowerOfTwo max = true) (hmaxp : Nat.isPowerOfTwo max) (hmax : max ≤ 512) :
    ∃ sq kept, build dec txs max thr = .ok (sq, kept) := by
  obtain ⟨sq, kept, h⟩ := C06.build_returns_no_error (restrict dec txs) (decValid_restrict hdec) txs
    (fun t htm => by rw [restrict_agrees dec txs t htm]; exact hall t htm) max thr ht hcfg hmaxp hmax
  exact ⟨sq, kept, (build_restrict dec txs max thr).symm.trans h⟩

theorem build_is_the_specified_layout_on (dec : Bytes → Decoded) (txs : List Bytes) (hdec : DecValidOn dec txs)
    (max thr : Nat) (ht : 1 ≤ thr) (hcfg : Spec.validConfig max = true) (hsz : 478 * (max * max) < 4294967296)
    (sq kept : List Bytes) (h : build dec txs max thr = .ok (sq, kept)) :
    Spec.build dec txs max thr = some (sq, kept) := by
  rw [← spec_build_congr (restrict dec txs) dec txs max thr (restrict_agrees dec txs)]
  exact C07.build_is_the_specified_layout (restrict dec txs) (decValid_restrict hdec) txs max thr ht hcfg hsz sq kept
    ((build_restrict dec txs max thr).trans h)

theorem construct_is_the_specified_layout_on (dec : Bytes → Decoded) (txs : List Bytes) (hdec : DecValidOn dec txs)
    (max thr : Nat) (ht : 1 ≤ thr) (hcfg : Spec.validConfig max = true) (hsz : 478 * (max * max) < 4294967296)
    (sq : List Bytes) (h : construct dec txs max thr = .ok sq) :
    Spec.construct dec txs max thr = some sq := by
  rw [← spec_construct_congr (restrict dec txs) dec txs max thr (restrict_agrees dec txs)]
  exact C07.construct_is_the_specified_layout (restrict dec txs) (decValid_restrict hdec) txs max thr ht hcfg hsz sq
    ((construct_restrict dec txs max thr).trans h)

/-- what `MarshalBlobTx` returns for a non-empty list of proto-representable blobs in user namespaces -/
def MarshalledValid (t : Bytes) : Prop :=
  ∃ (tx : Bytes) (blobs : List Blob), blobs ≠ [] ∧ (∀ b ∈ blobs, C19.ProtoBlob b) ∧ (∀ b ∈ blobs, UserNs b.ns) ∧
    C19.SmallBTx { tx, blobs := blobs.map Blob.toProto, typeId := blobTxTypeId } ∧ marshalBlobTx tx blobs = some t

theorem unmarshal_of_marshalledValid (t : Bytes) (h : MarshalledValid t) :
    ∃ bt, unmarshalBlobTx t = .blobTx bt ∧ bt.blobs ≠ [] ∧ (∀ b ∈ bt.blobs, b.BlobValid) ∧
      (∀ b ∈ bt.blobs, UserNs b.ns) ∧ marshalBlobTx bt.tx bt.blobs = some t := by
  obtain ⟨tx, blobs, hne, hb, hu, hs, hm⟩ := h
  obtain ⟨raw, hm', hun⟩ := C19.unmarshalBlobTx_marshal tx blobs hne hb hs
  cases hm.symm.trans hm'
  exact ⟨{ tx, blobs }, hun, hne, fun b hbm => (hb b hbm).valid, hu, hm⟩

/-- **Satisfiability with the modelled real decoder**: the local hypotheses hold of `unmarshalBlobTx`,
    although `DecValid unmarshalBlobTx` does not. -/
theorem decOn_unmarshalBlobTx (txs : List Bytes)
    (h : ∀ t ∈ txs, unmarshalBlobTx t = .normal ∨ MarshalledValid t) :
    DecValidOn unmarshalBlobTx txs ∧ DecUserOn unmarshalBlobTx txs ∧ (∀ t ∈ txs, unmarshalBlobTx t ≠ .badBlobTx) := by
  have key : ∀ t ∈ txs, unmarshalBlobTx t ≠ .badBlobTx ∧ ∀ bt, unmarshalBlobTx t = .blobTx bt →
      (∀ b ∈ bt.blobs, b.BlobValid) ∧ (∀ b ∈ bt.blobs, UserNs b.ns) := by
    intro t ht
    rcases h t ht with hn | hmv
    · rw [hn]
      exact ⟨nofun, nofun⟩
    · obtain ⟨bt', hun, _, hv, hu, _⟩ := unmarshal_of_marshalledValid t hmv
      rw [hun]
      exact ⟨nofun, fun bt hbt => by cases hbt; exact ⟨hv, hu⟩⟩
  exact ⟨fun t ht bt hbt => ((key t ht).2 bt hbt).1, fun t ht bt hbt => ((key t ht).2 bt hbt).2, fun t ht => (key t ht).1⟩

/-- C03 for `Construct` with the modelled real decoder: no hypothesis about the decoder remains. -/
theorem construct_wellformed_unmarshalBlobTx (ordinary blobTxs : List Bytes)
    (ho : ∀ t ∈ ordinary, unmarshalBlobTx t = .normal) (hb : ∀ t ∈ blobTxs, MarshalledValid t)
    (max thr : Nat) (hmax : Nat.isPowerOfTwo max) (hsz : 478 * (max * max) < 4294967296) (sq : List Bytes)
    (h : construct unmarshalBlobTx (ordinary ++ blobTxs) max thr = .ok sq) : C03.WellFormed max sq := by
  obtain ⟨h1, h2, _⟩ := decOn_unmarshalBlobTx (ordinary ++ blobTxs)
    (fun t ht => (List.mem_append.mp ht).imp (ho t) (hb t))
  exact construct_wellformed_on unmarshalBlobTx _ h1 h2 max thr hmax hsz sq h

/-- C06 for `Build` with the modelled real decoder. -/
theorem build_returns_no_error_unmarshalBlobTx (txs : List Bytes)
    (h : ∀ t ∈ txs, unmarshalBlobTx t = .normal ∨ MarshalledValid t) (max thr : Nat) (ht : 1 ≤ thr)
    (hcfg : isPowerOfTwo max = true) (hmaxp : Nat.isPowerOfTwo max) (hmax : max ≤ 512) :
    ∃ sq kept, build unmarshalBlobTx txs max thr = .ok (sq, kept) := by
  obtain ⟨h1, _, h3⟩ := decOn_unmarshalBlobTx txs h
  exact build_returns_no_error_on unmarshalBlobTx txs h1 h3 max thr ht hcfg hmaxp hmax

/-- C02 with the modelled real decoder. -/
theorem deconstruct_construct_unmarshalBlobTx (pfbDec : Bytes → Res (List Nat)) (txs : List Bytes)
    (htx : ∀ t ∈ txs, (unmarshalBlobTx t = .normal ∧ t ≠ [] ∧ t.length < 2 ^ 63) ∨
      (∃ (tx : Bytes) (blobs : List Blob), blobs ≠ [] ∧ (∀ b ∈ blobs, C19.ProtoBlob b) ∧ (∀ b ∈ blobs, UserNs b.ns) ∧
        C19.SmallBTx { tx, blobs := blobs.map Blob.toProto, typeId := blobTxTypeId } ∧
        pfbDec tx = .ok (blobs.map (·.data.length)) ∧ blobs.length < 4294967296 ∧ marshalBlobTx tx blobs = some t))
    (max thr : Nat) (hmax : Nat.isPowerOfTwo max) (hsz : 478 * (max * max) < 4294967296)
    (sq : List Bytes) (h : construct unmarshalBlobTx txs max thr = .ok sq) : deconstruct sq pfbDec = .ok txs := by
  -- a marshalled blob transaction is canonical for `UnmarshalBlobTx`, in particular not ordinary
  have key : ∀ t ∈ txs, (unmarshalBlobTx t = .normal ∧ t ≠ [] ∧ t.length < 2 ^ 63) ∨
      (MarshalledValid t ∧ CanonBlobTx unmarshalBlobTx pfbDec t) := by
    intro t ht
    rcases htx t ht with hn | ⟨tx, blobs, hne, hb, hu, hs, hpfb, hcount, hm⟩
    · exact Or.inl hn
    · obtain ⟨raw, hm', hc⟩ := C02.canon_of_marshal pfbDec tx blobs hne hb hs hpfb hcount
      cases hm.symm.trans hm'
      exact Or.inr ⟨⟨tx, blobs, hne, hb, hu, hs, hm⟩, hc⟩
  obtain ⟨h1, h2, _⟩ := decOn_unmarshalBlobTx txs (fun t ht => (key t ht).imp And.left And.left)
  refine deconstruct_construct_on unmarshalBlobTx pfbDec txs h1 h2 max thr hmax hsz ?_ ?_ sq h
  · intro t ht hn
    rcases key t ht with ⟨_, h34⟩ | ⟨_, hc⟩
    · exact h34
    · rw [hc.isBlobTx] at hn; cases hn
  · intro t ht hbt
    rcases key t ht with ⟨hn, _⟩ | ⟨_, hc⟩
    · rw [hn] at hbt; cases hbt
    · exact hc

end GoSquare.DecLocal
