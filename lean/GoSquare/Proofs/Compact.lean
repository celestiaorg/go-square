import GoSquare.Proofs.Counter
import GoSquare.Proofs.Sparse
/-! The compact writer refines the specified format (C09, C10, C13, splitter half of C14). `Holds ns x c D S k`: what
    a splitter holds that has written the stream `D` with unit starts `S` and whose pending share is share `k`;
    `NormalAt` fixes `k` as the share in which offset `|D|` lies, the state between two operations. `write` and
    `Export` are specified on `NormalAt`, for any stream; `WriteTx` on `Normal` (a unit stream) follows. -/
namespace GoSquare
open Spec

structure CompactNs (ns : Bytes) : Prop where
  len : ns.length = 29
  compact : isCompactNs ns = true

theorem compactNs_tx : CompactNs txNamespace := ⟨by decide, by decide⟩
theorem compactNs_pfb : CompactNs payForBlobNamespace := ⟨by decide, by decide⟩

theorem CompactNs.not_padding {ns : Bytes} (hc : CompactNs ns) :
    Ns.isTailPadding ns = false ∧ Ns.isPrimaryReservedPadding ns = false := by
  have := hc.compact
  simp only [isCompactNs, Ns.isTx, Ns.isPayForBlob, Ns.equals, Bool.or_eq_true, beq_iff_eq] at this
  rcases this with rfl | rfl <;> exact ⟨by decide, by decide⟩

/-! With `compactOff_eq`, `posOf_fst` and `sizeOf_eq` the arithmetic about positions is `omega`'s. -/

theorem compactOff_eq (k : Nat) : compactOff k = 478 * k - 4 := by
  unfold compactOff; split <;> omega

theorem compactCount_eq (T : Nat) : compactCount T = if T = 0 then 0 else (T + 481) / 478 := by
  unfold compactCount
  split
  · rfl
  · split <;> omega

theorem compactCount_eq_sizeOf (T : Nat) : compactCount T = sizeOf T := by
  rw [compactCount_eq, sizeOf_eq]

theorem availableBytes_eq_compactOff (n : Nat) : availableBytesFromCompactShares n = compactOff n := by
  rw [compactOff_eq]; unfold availableBytesFromCompactShares
  split
  · omega
  · split <;> omega

theorem compactOff_succ (k : Nat) : compactOff (k + 1) = compactOff k + compactCap k := by
  rw [compactOff_eq, compactOff_eq]; unfold compactCap; split <;> omega

theorem compactOff_mono {j k : Nat} (h : j ≤ k) : compactOff j ≤ compactOff k := by
  rw [compactOff_eq, compactOff_eq]; omega

theorem compactOff_lt_succ (k : Nat) : compactOff k < compactOff (k + 1) := by
  rw [compactOff_eq, compactOff_eq]; omega

theorem compactOff_lt {j k : Nat} (h : j < k) : compactOff j + compactCap j ≤ compactOff k := by
  rw [← compactOff_succ]; exact compactOff_mono h

theorem posOf_fst_off (T : Nat) : compactOff (posOf T).1 ≤ T ∧ T < compactOff ((posOf T).1 + 1) := by
  rw [compactOff_eq, compactOff_eq, posOf_fst]; omega

theorem posOf_unique (T k : Nat) (h1 : compactOff k ≤ T) (h2 : T < compactOff (k + 1)) : (posOf T).1 = k := by
  rw [compactOff_eq] at h1 h2
  rw [posOf_fst]; omega

theorem compactCount_pos {T : Nat} (h : 0 < T) : 1 ≤ compactCount T := by
  rw [compactCount_eq, if_neg (by omega)]; omega

theorem compactCount_bounds (T : Nat) (h : 0 < T) :
    compactOff (compactCount T - 1) < T ∧ T ≤ compactOff (compactCount T) := by
  rw [compactCount_eq, if_neg (by omega), compactOff_eq, compactOff_eq]; omega

theorem compactCount_of_pos (T : Nat) :
    compactCount T = if T = compactOff (posOf T).1 then (posOf T).1 else (posOf T).1 + 1 := by
  rw [compactCount_eq, compactOff_eq, posOf_fst]
  by_cases h0 : T = 0
  · subst h0; rfl
  · rw [if_neg h0]; split <;> omega

theorem compactHdr_pos (k : Nat) : 0 < compactHdr k := by unfold compactHdr; split <;> omega

theorem compactHdr_cap (k : Nat) : compactHdr k + compactCap k = 512 := by
  unfold compactHdr compactCap; split <;> omega

/-- bytes before the reserved bytes of share `k`; `x`: the sequence-length field of share 0, zero while the share is
    pending, patched by every `Export` once it is stacked -/
def hdrX (ns x : Bytes) (k : Nat) : Bytes :=
  if k = 0 then ns ++ [infoByte 0 true] ++ x else ns ++ [infoByte 0 false]

def hdr (ns : Bytes) (k : Nat) : Bytes := hdrX ns (zeros 4) k

theorem hdrX_eq (ns x : Bytes) (k : Nat) : hdrX ns x k = ns ++ [infoByte 0 (k == 0)] ++ (if k = 0 then x else []) := by
  unfold hdrX
  split
  · subst k; rfl
  · rename_i hk; rw [List.append_nil, beq_eq_false_iff_ne.mpr hk]

theorem hdrX_length (ns x : Bytes) (k : Nat) (h : ns.length = 29) (hx : x.length = 4) :
    (hdrX ns x k).length + 4 = compactHdr k := by
  unfold hdrX compactHdr; split <;> simp [h, hx]

theorem hdr_length (ns : Bytes) (k : Nat) (h : ns.length = 29) : (hdr ns k).length + 4 = compactHdr k :=
  hdrX_length ns _ k h (zeros_length 4)

/-- reserved bytes of share `k`: in-share offset of the first unit starting in it, else 0 -/
def resOf (starts : List Nat) (k : Nat) : Nat :=
  match starts.find? (fun s => compactOff k ≤ s ∧ s < compactOff k + compactCap k) with
  | some s => compactHdr k + (s - compactOff k)
  | none => 0

theorem resOf_lt (starts : List Nat) (k : Nat) : resOf starts k < 512 := by
  have := compactHdr_cap k
  unfold resOf
  split
  · rename_i s hs
    have := List.find?_some hs
    simp only [decide_eq_true_eq] at this
    omega
  · omega

theorem resOf_ge (starts : List Nat) (k : Nat) (h : resOf starts k ≠ 0) : compactHdr k ≤ resOf starts k := by
  unfold resOf at h ⊢
  split at h
  · omega
  · exact absurd rfl h

theorem resOf_zero_of_all_lt (S : List Nat) (j : Nat) (h : ∀ s ∈ S, s < compactOff j) : resOf S j = 0 := by
  unfold resOf
  rw [List.find?_eq_none.mpr fun s hs => by have := h s hs; simp; omega]

theorem resOf_append (starts : List Nat) (T k : Nat) :
    resOf (starts ++ [T]) k =
      if resOf starts k = 0 ∧ compactOff k ≤ T ∧ T < compactOff k + compactCap k then compactHdr k + (T - compactOff k)
      else resOf starts k := by
  have hpos := compactHdr_pos k
  unfold resOf
  rw [List.find?_append]
  cases starts.find? (fun s => decide (compactOff k ≤ s ∧ s < compactOff k + compactCap k)) with
  | some s => dsimp only [Option.some_or]; rw [if_neg (by omega)]
  | none => by_cases hT : compactOff k ≤ T ∧ T < compactOff k + compactCap k <;> simp [hT]

/-- a stacked (full) share as the splitter holds it -/
def rawShare (ns x : Bytes) (D : Bytes) (starts : List Nat) (k : Nat) : Bytes :=
  hdrX ns x k ++ be32 (resOf starts k) ++ (D.drop (compactOff k)).take (compactCap k)

def pendingRaw (ns : Bytes) (D : Bytes) (starts : List Nat) (k : Nat) : Bytes :=
  hdr ns k ++ be32 (resOf starts k) ++ D.drop (compactOff k)

theorem pendingRaw_split (ns D : Bytes) (S : List Nat) (k : Nat) :
    pendingRaw ns D S k = hdr ns k ++ be32 (resOf S k) ++ D.drop (compactOff k) := rfl

theorem pendingRaw_length (ns D : Bytes) (S : List Nat) (k : Nat) (hns : ns.length = 29) :
    (pendingRaw ns D S k).length = compactHdr k + (D.length - compactOff k) := by
  have := hdr_length ns k hns
  simp only [pendingRaw, List.length_append, be32_length, List.length_drop]; omega

theorem rawShare_pending (ns x D : Bytes) (S : List Nat) (k : Nat) (h : D.length ≤ compactOff (k + 1))
    (hx : k = 0 → x = zeros 4) : rawShare ns x D S k = pendingRaw ns D S k := by
  rw [compactOff_succ] at h
  unfold rawShare pendingRaw hdr
  rw [List.take_of_length_le (by rw [List.length_drop]; omega)]
  by_cases hk : k = 0
  · rw [hx hk]
  · simp [hdrX, hk]

/-- a splitter that has written the stream `D` with unit starts `S`: `k` full shares stacked, share `k` pending
    (possibly exactly full, before `write` stacks it) -/
structure Holds (ns x : Bytes) (c : CompactSplitter) (D : Bytes) (S : List Nat) (k : Nat) : Prop where
  nsEq : c.ns = ns
  ver : c.ver = 0
  done : c.done = false
  shares : c.shares = (List.range k).map (rawShare ns x D S)
  sb : c.sb = { ns := ns, ver := 0, isFirst := decide (k = 0), isCompact := true, raw := pendingRaw ns D S k }

section
variable {ns x : Bytes} {c : CompactSplitter} {D : Bytes} {S : List Nat} {k : Nat} (h : Holds ns x c D S k)
include h

theorem Holds.length : c.shares.length = k := by simp [h.shares]

/-- the room left in the pending share, without subtraction -/
theorem Holds.raw_length (hns : ns.length = 29) (hlo : compactOff k ≤ D.length) :
    c.sb.raw.length + compactOff (k + 1) = 512 + D.length := by
  have := compactHdr_cap k
  rw [h.sb, compactOff_succ]
  simp only [pendingRaw_length ns D S k hns]; omega

theorem Holds.isEmptyShare (hns : ns.length = 29) (hlo : compactOff k ≤ D.length) :
    c.sb.isEmptyShare = decide (D.length = compactOff k) := by
  have hl := pendingRaw_length ns D S k hns
  have hh : compactHdr k = 30 + 4 + if k = 0 then 4 else 0 := by unfold compactHdr; split <;> rfl
  rw [Bool.eq_iff_iff]
  simp [ShareBuilder.isEmptyShare, h.sb]
  omega

/-- the stacked shares lie before the appended bytes -/
theorem Holds.append (hlo : compactOff k ≤ D.length) (d : Bytes) :
    Holds ns x { c with sb := { c.sb with raw := c.sb.raw ++ d } } (D ++ d) S k := by
  refine ⟨h.nsEq, h.ver, h.done, ?_, ?_⟩
  · rw [h.shares]
    apply List.map_congr_left
    intro j hj
    have := compactOff_lt (List.mem_range.mp hj)
    unfold rawShare
    rw [List.drop_append_of_le_length (by omega), List.take_append_of_le_length (by rw [List.length_drop]; omega)]
  · simp only [h.sb, pendingRaw, List.drop_append_of_le_length hlo, List.append_assoc]

/-- a unit start at the end of the stream lies behind every stacked share -/
theorem Holds.newStart (hlo : compactOff k ≤ D.length) :
    Holds ns x { c with sb := ⟨ns, 0, decide (k = 0), true, pendingRaw ns D (S ++ [D.length]) k⟩ } D (S ++ [D.length]) k := by
  refine ⟨h.nsEq, h.ver, h.done, ?_, rfl⟩
  rw [h.shares]
  apply List.map_congr_left
  intro j hj
  have := compactOff_lt (List.mem_range.mp hj)
  unfold rawShare
  rw [resOf_append, if_neg (by omega)]

end

/-- the state between two operations, for any stream `D` with unit starts `S`: the pending share is the one in which
    offset `|D|` lies, and is not full (`write` stacks a share as soon as it is) -/
def NormalAt (ns x : Bytes) (c : CompactSplitter) (D : Bytes) (S : List Nat) : Prop :=
  Holds ns x c D S (posOf D.length).1 ∧ ((posOf D.length).1 = 0 → x = zeros 4)

theorem Holds.normal {ns x : Bytes} {c : CompactSplitter} {D : Bytes} {S : List Nat} {k : Nat} (h : Holds ns x c D S k)
    (hlo : compactOff k ≤ D.length) (hhi : D.length < compactOff (k + 1)) (hx : k = 0 → x = zeros 4) :
    NormalAt ns x c D S := by
  rw [NormalAt, posOf_unique _ k hlo hhi]; exact ⟨h, hx⟩

/-- `hS`: no unit starts in the fresh continuation share yet -/
theorem stackPending_spec {ns x : Bytes} (hc : CompactNs ns) {c : CompactSplitter} {D : Bytes} {S : List Nat} {k : Nat}
    (h : Holds ns x c D S k) (hfull : D.length = compactOff (k + 1)) (hS : ∀ s ∈ S, s < D.length)
    (hx : k = 0 → x = zeros 4) :
    ∃ c', c.stackPending = .ok c' ∧ NormalAt ns x c' D S ∧ c'.ranges = c.ranges := by
  have hlo : compactOff k ≤ D.length := by rw [hfull]; exact compactOff_mono (Nat.le_succ k)
  have hlen : c.sb.raw.length = 512 := by have := h.raw_length hc.len hlo; omega
  have hnew : ShareBuilder.new ns 0 false = .ok ⟨ns, 0, decide (k + 1 = 0), true, pendingRaw ns D S (k + 1)⟩ := by
    have hS0 := resOf_zero_of_all_lt S (k + 1) (by rw [← hfull]; exact hS)
    have hdrop : D.drop (compactOff (k + 1)) = [] := List.drop_of_length_le (Nat.le_of_eq hfull)
    simp [newBuilder_eq ns 0 false (by omega), hc.compact, pendingRaw, hdr, hdrX, hS0, hdrop, be32, zeros]
  refine ⟨{ c with shares := c.shares ++ [c.sb.raw], sb := ⟨ns, 0, decide (k + 1 = 0), true, pendingRaw ns D S (k + 1)⟩ },
    ?_, Holds.normal ⟨h.nsEq, h.ver, h.done, ?_, rfl⟩ (Nat.le_of_eq hfull.symm) (by rw [hfull]; exact compactOff_lt_succ (k + 1))
      (fun h0 => absurd h0 (Nat.succ_ne_zero k)), rfl⟩
  · simp [CompactSplitter.stackPending, ShareBuilder.build, hlen, h.nsEq, h.ver, hnew, bind, Except.bind]
  · simp only [h.shares, h.sb, List.range_succ, List.map_append, List.map_cons, List.map_nil,
      rawShare_pending ns x D S k (Nat.le_of_eq hfull) hx]

/-- the chunk loop of `write` together with the "stack if full" that follows it: the loop alone may leave the pending
    share exactly full, which is not a normal form -/
theorem addLoop_spec {ns x : Bytes} (hc : CompactNs ns) (S : List Nat) :
    ∀ (fuel : Nat) (c : CompactSplitter) (D d : Bytes),
      NormalAt ns x c D S → (∀ s ∈ S, s ≤ D.length) → d ≠ [] → d.length + 1 ≤ fuel →
      ∃ c1 c', c.addLoop fuel d = .ok c1 ∧ (if c1.sb.availableBytes = 0 then c1.stackPending else .ok c1) = .ok c' ∧
        NormalAt ns x c' (D ++ d) S ∧ c'.ranges = c.ranges := by
  intro fuel
  induction fuel with
  | zero => intro _ _ d _ _ _ hf; omega
  | succ fuel ih =>
    intro c D d ⟨h, hx⟩ hS hd hf
    obtain ⟨hlo, hhi⟩ := posOf_fst_off D.length
    generalize (posOf D.length).1 = k at h hx hlo hhi
    have hdpos : 0 < d.length := List.length_pos_iff.mpr hd
    obtain ⟨room, hpos, hroom⟩ : ∃ room, 0 < room ∧ D.length + room = compactOff (k + 1) :=
      ⟨_, Nat.sub_pos_of_lt hhi, Nat.add_sub_cancel' (Nat.le_of_lt hhi)⟩
    have hr : c.sb.raw.length + room = 512 := by have := h.raw_length hc.len hlo; omega
    rw [CompactSplitter.addLoop]
    simp only [ShareBuilder.addData, show 512 - c.sb.raw.length = room from Nat.sub_eq_of_eq_add' hr.symm]
    by_cases hfit : d.length ≤ room
    · rw [if_pos hfit]
      have h1 := h.append hlo d
      have hl1 : (D ++ d).length = D.length + d.length := List.length_append
      by_cases hfull : d.length = room
      · obtain ⟨c', hc', hN', hr'⟩ := stackPending_spec hc h1 (by rw [hl1, hfull]; exact hroom)
          (fun s hs => Nat.lt_of_le_of_lt (hS s hs) (by rw [hl1]; exact Nat.lt_add_of_pos_right hdpos)) hx
        refine ⟨_, c', rfl, (if_pos ?_).trans hc', hN', hr'⟩
        simp only [ShareBuilder.availableBytes, List.length_append, hfull, hr]
      · have hlt : d.length < room := Nat.lt_of_le_of_ne hfit hfull
        refine ⟨_, _, rfl, if_neg (Nat.sub_ne_zero_of_lt ?_), h1.normal (Nat.le_trans hlo (by rw [hl1]; exact Nat.le_add_right _ _))
          (by rw [hl1, ← hroom]; exact Nat.add_lt_add_left hlt _) hx, rfl⟩
        rw [List.length_append, ← hr]; exact Nat.add_lt_add_left hlt _
    · rw [if_neg hfit]
      have hlt : room < d.length := Nat.lt_of_not_le hfit
      have hl1 : (D ++ d.take room).length = D.length + room := by
        rw [List.length_append, List.length_take, Nat.min_eq_left (Nat.le_of_lt hlt)]
      have hS1 : ∀ s ∈ S, s < (D ++ d.take room).length := fun s hs =>
        Nat.lt_of_le_of_lt (hS s hs) (by rw [hl1]; exact Nat.lt_add_of_pos_right hpos)
      obtain ⟨c1, hc1, hN1, hr1⟩ := stackPending_spec hc (h.append hlo (d.take room)) (hl1.trans hroom) hS1 hx
      obtain ⟨c2, c', hc2, hc', hN', hr'⟩ := ih c1 (D ++ d.take room) (d.drop room) hN1 (fun s hs => Nat.le_of_lt (hS1 s hs))
        (List.ne_nil_of_length_pos (by rw [List.length_drop]; exact Nat.sub_pos_of_lt hlt)) (by rw [List.length_drop]; omega)
      rw [List.append_assoc, List.take_append_drop] at hN'
      exact ⟨c2, c', by simp only [hc1, res_bind_ok, hc2], hc', hN', hr'.trans hr1⟩

theorem maybeWrite_spec (ns : Bytes) (hc : CompactNs ns) (D : Bytes) (S : List Nat) (k : Nat)
    (hlo : compactOff k ≤ D.length) (hhi : D.length < compactOff (k + 1)) :
    ShareBuilder.maybeWriteReservedBytes
        { ns := ns, ver := 0, isFirst := decide (k = 0), isCompact := true, raw := pendingRaw ns D S k } =
      .ok { ns := ns, ver := 0, isFirst := decide (k = 0), isCompact := true,
            raw := pendingRaw ns D (S ++ [D.length]) k } := by
  have hidx : (if decide (k = 0) = true then 34 else 30) = (hdr ns k).length := by
    by_cases hk : k = 0 <;> simp [hdr, hdrX, hk, hc.len]
  have hrawlen := pendingRaw_length ns D S k hc.len
  have hcap := compactHdr_cap k
  rw [compactOff_succ] at hhi
  unfold ShareBuilder.maybeWriteReservedBytes
  simp only [Bool.not_true, Bool.false_eq_true, if_false, ShareBuilder.indexOfReservedBytes, hidx]
  rw [pendingRaw_split, List.append_assoc, ← be32_length (resOf S k), slice_inner, res_bind_ok,
    parseReserved_be32 _ (resOf_lt S k), res_bind_ok]
  by_cases h0 : resOf S k ≠ 0
  · rw [if_pos h0, pendingRaw_split, resOf_append, if_neg fun h => h0 h.1, List.append_assoc]
  · -- no unit starts in the share yet: its reserved bytes become the current fill, `hdr + (|D| - off k)`
    rw [if_neg h0, ← List.append_assoc, ← pendingRaw_split, newReservedBytes, if_neg (by omega), res_bind_ok, hrawlen,
      pendingRaw_split, List.append_assoc, overwrite_inner _ _ _ _ (by simp), res_bind_ok, pendingRaw_split, List.append_assoc,
      resOf_append, if_pos ⟨Decidable.not_not.mp h0, hlo, hhi⟩]

theorem reopen_of_not_done (c : CompactSplitter) (h : c.done = false) : c.reopen = c := by
  simp [CompactSplitter.reopen, h]

theorem write_spec {ns x : Bytes} (hc : CompactNs ns) {c : CompactSplitter} {D : Bytes} {S : List Nat}
    (h : NormalAt ns x c D S) (hS : ∀ s ∈ S, s ≤ D.length) {d : Bytes} (hd : d ≠ []) :
    ∃ c', c.write d = .ok c' ∧ NormalAt ns x c' (D ++ d) (S ++ [D.length]) ∧ c'.ranges = c.ranges := by
  obtain ⟨hlo, hhi⟩ := posOf_fst_off D.length
  obtain ⟨c1, c', hc1, hc', hN', hr'⟩ := addLoop_spec hc (S ++ [D.length]) (d.length + 2) _ D d ⟨h.1.newStart hlo, h.2⟩
    (List.forall_mem_append.mpr ⟨hS, List.forall_mem_singleton.mpr (Nat.le_refl _)⟩) hd (by omega)
  refine ⟨c', ?_, hN', hr'⟩
  unfold CompactSplitter.write
  simp only [reopen_of_not_done c h.1.done, h.1.sb, maybeWrite_spec ns hc D S _ hlo hhi, res_bind_ok]
  rw [hc1, res_bind_ok, hc']

theorem unitStream_cons (u : Bytes) (us : List Bytes) :
    unitStream (u :: us) = uvarint u.length ++ (u ++ unitStream us) := by
  simp [unitStream]

theorem unitStream_append (us : List Bytes) (u : Bytes) :
    unitStream (us ++ [u]) = unitStream us ++ (uvarint u.length ++ u) := by
  simp [unitStream]

theorem unitStream_length_mono (us vs : List Bytes) : (unitStream us).length ≤ (unitStream (us ++ vs)).length := by
  simp [unitStream]

theorem unitStream_length (us : List Bytes) :
    (unitStream us).length = (us.map (fun u => uvarintLen u.length + u.length)).sum := by
  induction us with
  | nil => rfl
  | cons u us ih => simp [unitStream, uvarint_length] at ih ⊢; omega

theorem unitStream_pos (units : List Bytes) (hne : units ≠ []) : 0 < (unitStream units).length := by
  cases units with
  | nil => exact absurd rfl hne
  | cons u us =>
    have := uvarintLen_pos u.length
    simp [unitStream, uvarint_length]; omega

theorem unitStarts_append : ∀ (us : List Bytes) (off : Nat) (u : Bytes),
    unitStarts off (us ++ [u]) = unitStarts off us ++ [off + (unitStream us).length]
  | [], off, u => by simp [unitStarts, unitStream]
  | v :: vs, off, u => by
    simp only [List.cons_append, unitStarts, unitStarts_append vs _ u]
    simp [unitStream, uvarint_length]; omega

theorem unitStarts_lt : ∀ (us : List Bytes) (off : Nat), ∀ s ∈ unitStarts off us, s < off + (unitStream us).length
  | [], _, s, h => by simp [unitStarts] at h
  | v :: vs, off, s, h => by
    simp only [unitStarts, List.mem_cons] at h
    have hp := uvarintLen_pos v.length
    have hl : (unitStream (v :: vs)).length = uvarintLen v.length + v.length + (unitStream vs).length := by
      simp [unitStream, uvarint_length]; omega
    rcases h with rfl | h
    · omega
    · have := unitStarts_lt vs _ s h; omega

/-- `NormalAt` on the stream and the unit starts of `units`: what the statements about `WriteTx` are written in -/
def Normal (ns x : Bytes) (c : CompactSplitter) (units : List Bytes) : Prop :=
  Holds ns x c (unitStream units) (unitStarts 0 units) (posOf (unitStream units).length).1 ∧
  ((posOf (unitStream units).length).1 = 0 → x = zeros 4)

theorem Normal.xlen_of_zero {ns x : Bytes} {c : CompactSplitter} {units : List Bytes} (h : Normal ns x c units)
    (hk : (posOf (unitStream units).length).1 = 0) : x.length = 4 := by rw [h.2 hk]; simp

/-- `WriteTx` keeps the specified state and records the range from the shares stacked before it to `Count()` after. -/
theorem writeTx_spec (ns x : Bytes) (hc : CompactNs ns) (c : CompactSplitter) (units : List Bytes) (u : Bytes)
    (h : Normal ns x c units) :
    ∃ c', c.writeTx u = .ok c' ∧ Normal ns x c' (units ++ [u]) ∧
      c'.ranges = CompactSplitter.setRange c.ranges u (c.shares.length, c'.count) := by
  have hdne : uvarint u.length ++ u ≠ [] := List.ne_nil_of_length_pos (by
    rw [List.length_append, uvarint_length]; exact Nat.le_add_right_of_le (uvarintLen_pos _))
  obtain ⟨c', hw, ⟨hH', hx'⟩, hr'⟩ := write_spec hc h (fun s hs => Nat.le_of_lt (by simpa using unitStarts_lt units 0 s hs)) hdne
  refine ⟨{ c' with ranges := CompactSplitter.setRange c'.ranges u (c.shares.length, c'.count) }, ?_, ?_, by rw [hr']; rfl⟩
  · unfold CompactSplitter.writeTx
    simp only [reopen_of_not_done c h.1.done, CompactSplitter.marshalDelimitedTx, hw, res_bind_ok]
  · rw [Normal, unitStream_append, unitStarts_append, Nat.zero_add]
    exact ⟨⟨hH'.nsEq, hH'.ver, hH'.done, hH'.shares, hH'.sb⟩, hx'⟩

theorem new_spec (ns : Bytes) (hc : CompactNs ns) :
    ∃ c, CompactSplitter.new ns 0 = .ok c ∧ Normal ns (zeros 4) c [] ∧ c.ranges = [] := by
  refine ⟨{ shares := [], sb := ShareBuilder.mk ns 0 true true (pendingRaw ns [] [] 0), ns := ns, ver := 0,
            done := false, ranges := [] }, ?_, ⟨⟨rfl, rfl, rfl, rfl, rfl⟩, fun _ => rfl⟩, rfl⟩
  simp [CompactSplitter.new, newBuilder_eq ns 0 true (by omega), hc.compact, bind, Except.bind, Except.mapError, pendingRaw,
    hdr, hdrX, resOf, be32, zeros]

theorem writeAll_spec (ns x : Bytes) (hc : CompactNs ns) : ∀ (us : List Bytes) (c : CompactSplitter) (units : List Bytes),
    Normal ns x c units → ∃ c', us.foldlM (fun w t => w.writeTx t) c = .ok c' ∧ Normal ns x c' (units ++ us)
  | [], c, units, h => ⟨c, rfl, by simpa using h⟩
  | u :: us, c, units, h => by
    obtain ⟨c1, h1, hN1, _⟩ := writeTx_spec ns x hc c units u h
    obtain ⟨c2, h2, hN2⟩ := writeAll_spec ns x hc us c1 (units ++ [u]) hN1
    refine ⟨c2, ?_, by simpa [List.append_assoc] using hN2⟩
    rw [List.foldlM_cons, h1]; exact h2

theorem writer_normal (ns : Bytes) (hc : CompactNs ns) (units : List Bytes) :
    ∃ c0 c, CompactSplitter.new ns 0 = .ok c0 ∧ units.foldlM (fun w t => w.writeTx t) c0 = .ok c ∧
      Normal ns (zeros 4) c units := by
  obtain ⟨c0, hnew, hN0, _⟩ := new_spec ns hc
  obtain ⟨c, hw, hN⟩ := writeAll_spec ns (zeros 4) hc units c0 [] hN0
  exact ⟨c0, c, hnew, hw, by rwa [List.nil_append] at hN⟩

/-- C13, compact prediction: `Count()` is `CompactSharesNeeded` of the bytes written. -/
theorem count_spec (ns x : Bytes) (hc : CompactNs ns) (c : CompactSplitter) (units : List Bytes) (h : Normal ns x c units) :
    c.count = compactSharesNeeded (unitStream units).length := by
  obtain ⟨h, _⟩ := h
  rw [← sizeOf_eq_compactSharesNeeded, ← compactCount_eq_sizeOf, compactCount_of_pos, CompactSplitter.count,
    h.isEmptyShare hc.len (posOf_fst_off _).1, h.done, h.length]
  by_cases hz : (unitStream units).length = compactOff (posOf (unitStream units).length).1
  · rw [decide_eq_true hz, if_pos hz]; rfl
  · rw [decide_eq_false hz, if_neg hz]; rfl

/-- share `j` of `Spec.compactSeq`, for the stream `D` with unit starts `S` (`compactSeq_eq`) -/
def specShare (ns D : Bytes) (S : List Nat) (j : Nat) : Bytes :=
  fill (ns ++ [infoByte 0 (j == 0)] ++ (if j = 0 then be32 D.length else []) ++ be32 (resOf S j) ++
        (D.drop (compactOff j)).take (compactCap j))

theorem compactSeq_eq (ns : Bytes) (units : List Bytes) :
    Spec.compactSeq ns units =
      (List.range (compactCount (unitStream units).length)).map (specShare ns (unitStream units) (unitStarts 0 units)) := by
  rfl

theorem compactSeq_count (ns : Bytes) (units : List Bytes) :
    (Spec.compactSeq ns units).length = compactCount (unitStream units).length := by
  rw [compactSeq_eq, List.length_map, List.length_range]

theorem compactSeq_length (ns : Bytes) (units : List Bytes) :
    (Spec.compactSeq ns units).length = compactSharesNeeded (unitStream units).length := by
  rw [compactSeq_count, compactCount_eq_sizeOf, sizeOf_eq_compactSharesNeeded]

/-- Where the hypothesis `478 * (max * max) < 4294967296` of the theorems about squares comes from: a square has at
    most `max * max` shares, so the stream lengths, which share 0 declares as a `uint32`, do not wrap. -/
theorem stream_lt_of_shares (ns : Bytes) (units : List Bytes) (k : Nat) (h : (Spec.compactSeq ns units).length ≤ k)
    (hk : 478 * k < 4294967296) : (unitStream units).length < 4294967296 := by
  rw [compactSeq_length, ← sizeOf_eq_compactSharesNeeded, sizeOf_eq] at h
  split at h <;> omega

theorem compactSeq_cons (ns : Bytes) {units : List Bytes} (hne : units ≠ []) :
    ∃ m, Spec.compactSeq ns units = specShare ns (unitStream units) (unitStarts 0 units) 0 ::
      (List.range m).map (fun j => specShare ns (unitStream units) (unitStarts 0 units) (j + 1)) := by
  obtain ⟨m, hm⟩ : ∃ m, compactCount (unitStream units).length = m + 1 :=
    ⟨_, (Nat.sub_add_cancel (compactCount_pos (unitStream_pos units hne))).symm⟩
  exact ⟨m, by rw [compactSeq_eq, hm, List.range_succ_eq_map, List.map_cons, List.map_map]; rfl⟩

theorem compactSeq_eq_nil_iff (ns : Bytes) (units : List Bytes) : Spec.compactSeq ns units = [] ↔ units = [] := by
  refine ⟨fun h => ?_, fun h => by rw [h]; rfl⟩
  by_cases hne : units = []
  · exact hne
  · obtain ⟨m, hm⟩ := compactSeq_cons ns hne
    rw [hm] at h
    cases h

theorem specShare_eq (ns D : Bytes) (S : List Nat) (j : Nat) :
    specShare ns D S j = fill (rawShare ns (be32 D.length) D S j) := by
  rw [specShare, rawShare, hdrX_eq]

/-- payload of specified share `j` as the reader sees it: zero filled in the last share -/
def compactPayload (D : Bytes) (j : Nat) : Bytes :=
  (D.drop (compactOff j)).take (compactCap j) ++ zeros (compactCap j - ((D.drop (compactOff j)).take (compactCap j)).length)

theorem compactPayload_length (D : Bytes) (j : Nat) : (compactPayload D j).length = compactCap j := by
  have := List.length_take_le (compactCap j) (D.drop (compactOff j))
  simp only [compactPayload, List.length_append, zeros_length]; omega

theorem rawShare_length (ns x D : Bytes) (S : List Nat) (j : Nat) (hns : ns.length = 29) (hx : x.length = 4) :
    (rawShare ns x D S j).length = compactHdr j + min (compactCap j) (D.length - compactOff j) := by
  rw [rawShare, List.length_append, List.length_append, be32_length, hdrX_length ns x j hns hx, List.length_take,
    List.length_drop]

theorem fill_rawShare (ns x D : Bytes) (S : List Nat) (j : Nat) (hns : ns.length = 29) (hx : x.length = 4) :
    fill (rawShare ns x D S j) = hdrX ns x j ++ be32 (resOf S j) ++ compactPayload D j := by
  rw [fill, rawShare_length ns x D S j hns hx, rawShare, compactPayload, List.length_take, List.length_drop,
    List.append_assoc _ _ (zeros _), ← compactHdr_cap j, Nat.add_sub_add_left]

/-- full shares are not changed by zero filling -/
theorem map_fill_rawShare (ns x D : Bytes) (S : List Nat) (k : Nat) (hns : ns.length = 29) (hx : x.length = 4)
    (hlo : compactOff k ≤ D.length) :
    (List.range k).map (fun j => fill (rawShare ns x D S j)) = (List.range k).map (rawShare ns x D S) := by
  apply List.map_congr_left
  intro j hj
  have := compactOff_lt (List.mem_range.mp hj)
  have hc := compactHdr_cap j
  exact fill_of_length (by rw [rawShare_length ns x D S j hns hx]; omega)

theorem sequenceLen_eq (c : CompactSplitter) (pad : Nat) :
    c.sequenceLen pad = u32 (compactOff c.shares.length - pad) := by
  unfold CompactSplitter.sequenceLen compactOff
  split
  · simp [u32]
  · split <;> simp [*]

/-- patching the sequence-length field `x` of share 0 makes the shares held the specified ones -/
theorem writeSeqLen_map (ns x D : Bytes) (S : List Nat) (hns : ns.length = 29) (c : CompactSplitter) (n : Nat)
    (hn : 1 ≤ n) (hcn : c.ns = ns) (hv : c.ver = 0) (hx : x.length = 4)
    (hs : c.shares = (List.range n).map (fun j => fill (rawShare ns x D S j))) :
    c.writeSeqLen D.length = .ok { c with shares := (List.range n).map (specShare ns D S) } := by
  obtain ⟨m, rfl⟩ : ∃ m, n = m + 1 := ⟨n - 1, by omega⟩
  -- the later shares have no sequence-length field
  have e : ∀ y, ((fun j => fill (rawShare ns y D S j)) ∘ Nat.succ) = ((fun j => fill (rawShare ns x D S j)) ∘ Nat.succ) :=
    fun y => funext fun j => by simp [rawShare, hdrX]
  have ht : ∀ y : Bytes, y.length = 4 → fill (rawShare ns y D S 0) =
      ns ++ [infoByte 0 true] ++ y ++ (be32 (resOf S 0) ++ compactPayload D 0) := fun y hy => by
    rw [fill_rawShare ns y D S 0 hns hy, List.append_assoc]; rfl
  have hl : (ns ++ [infoByte 0 true] ++ be32 D.length ++ (be32 (resOf S 0) ++ compactPayload D 0)).length = 512 := by
    simp [hns, compactPayload_length, compactCap]
  rw [List.range_succ_eq_map, List.map_cons, List.map_map, ht x hx] at hs
  rw [funext (specShare_eq ns D S), List.range_succ_eq_map, List.map_cons, List.map_map, e (be32 D.length), ht _ (be32_length _)]
  have hne : c.isEmpty = false := by simp [CompactSplitter.isEmpty, hs]
  unfold CompactSplitter.writeSeqLen
  simp only [hne, Bool.false_eq_true, if_false, hs, hcn, hv, newBuilder_eq ns 0 true (by omega), res_bind_ok,
    ShareBuilder.writeSequenceLen, Bool.not_true, overwrite_seqLen ns _ x _ D.length hns hx, ShareBuilder.build, hl, if_true]

theorem exportShares_eq {ns x : Bytes} (hc : CompactNs ns) {c : CompactSplitter} {D : Bytes} {S : List Nat}
    (h : NormalAt ns x c D S) (hxl : x.length = 4) (hD : D.length ≠ 0) (hlt : D.length < 4294967296) :
    c.exportShares = .ok ({ c with shares := (List.range (compactCount D.length)).map (specShare ns D S), done := true },
      (List.range (compactCount D.length)).map (specShare ns D S)) := by
  obtain ⟨hH, hx0⟩ := h
  obtain ⟨hlo, hhi⟩ := posOf_fst_off D.length
  have hcount := compactCount_of_pos D.length
  generalize (posOf D.length).1 = k at *
  have hemp := hH.isEmptyShare hc.len hlo
  have hcl := hH.length
  have hraw := hH.raw_length hc.len hlo
  have hs := hH.shares.trans (map_fill_rawShare ns x D S k hc.len hxl hlo).symm
  have hie : c.isEmpty = false := by
    simp only [CompactSplitter.isEmpty, hcl, hemp, Bool.and_eq_false_imp, beq_iff_eq, decide_eq_false_iff_not]
    intro hk0; subst hk0; exact hD
  unfold CompactSplitter.exportShares
  simp only [hie, hH.done, hemp]
  by_cases hz : D.length = compactOff k
  · -- the stream ends on a share boundary: nothing pending
    rw [if_pos hz] at hcount
    have hseq : c.sequenceLen 0 = D.length := by
      rw [sequenceLen_eq, hcl, ← hz]; exact u32_of_lt hlt
    have hk1 : 1 ≤ k := Nat.pos_of_ne_zero fun h0 => hD (by rw [hz, h0]; rfl)
    rw [decide_eq_true hz]
    simp only [pure, Except.pure, res_bind_ok, hseq]
    rw [writeSeqLen_map ns x D S hc.len c k hk1 hH.nsEq hH.ver hxl hs, hcount]; rfl
  · -- `Export` appends a zero-padded copy of the pending share
    rw [if_neg hz] at hcount
    obtain ⟨hpb, hpn⟩ := zeroPad_build c.sb (by omega)
    rw [show c.sb.raw = rawShare ns x D S k by
      rw [hH.sb]; exact (rawShare_pending ns x D S k (Nat.le_of_lt hhi) hx0).symm] at hpb
    generalize c.sb.zeroPadIfNecessary = zp at hpb hpn
    obtain ⟨p, pad⟩ := zp
    have hs1 : c.shares ++ [fill (rawShare ns x D S k)] = (List.range (k + 1)).map (fun j => fill (rawShare ns x D S j)) := by
      rw [List.range_succ, List.map_append, ← hs]; rfl
    have hseq : ({ c with shares := c.shares ++ [fill (rawShare ns x D S k)], done := false } : CompactSplitter).sequenceLen
        pad = D.length := by
      rw [sequenceLen_eq, List.length_append, hcl, List.length_singleton, show compactOff (k + 1) - pad = D.length by omega]
      exact u32_of_lt hlt
    rw [decide_eq_false hz]
    simp only [hpb, res_bind_ok, pure, Except.pure, hseq]
    rw [writeSeqLen_map ns x D S hc.len { c with shares := c.shares ++ [fill (rawShare ns x D S k)], done := false } (k + 1)
      (Nat.succ_pos k) hH.nsEq hH.ver hxl hs1, hcount]; rfl

/-- the `if`: share 0, once stacked, keeps the sequence length that `Export` patched in -/
theorem reopen_exported {ns x : Bytes} (hc : CompactNs ns) {c : CompactSplitter} {D : Bytes} {S : List Nat}
    (h : NormalAt ns x c D S) :
    NormalAt ns (if (posOf D.length).1 = 0 then zeros 4 else be32 D.length)
      ({ c with shares := (List.range (compactCount D.length)).map (specShare ns D S), done := true } : CompactSplitter).reopen
      D S := by
  obtain ⟨hH, -⟩ := h
  obtain ⟨hlo, -⟩ := posOf_fst_off D.length
  have hcount := compactCount_of_pos D.length
  refine ⟨⟨hH.nsEq, hH.ver, by simp [CompactSplitter.reopen], ?_, hH.sb⟩, fun e => if_pos e⟩
  generalize (posOf D.length).1 = k at *
  simp only [CompactSplitter.reopen, hH.isEmptyShare hc.len hlo, hcount, funext (specShare_eq ns D S)]
  have : (List.range k).map (fun j => fill (rawShare ns (be32 D.length) D S j)) =
      (List.range k).map (rawShare ns (if k = 0 then zeros 4 else be32 D.length) D S) := by
    by_cases hk0 : k = 0
    · subst hk0; rfl
    · rw [if_neg hk0]; exact map_fill_rawShare ns _ D S k hc.len (be32_length _) hlo
  by_cases hz : D.length = compactOff k
  · simpa [hz] using this
  · simpa [hz, List.range_succ] using this

/-- `Export` returns the specified sequence; reopened by the next write, the splitter is in the specified state
    again. -/
theorem export_spec (ns x : Bytes) (hc : CompactNs ns) (c : CompactSplitter) (units : List Bytes)
    (h : Normal ns x c units) (hxl : x.length = 4) (hlt : (unitStream units).length < 4294967296) :
    ∃ c' x', c.exportShares = .ok (c', Spec.compactSeq ns units) ∧ x'.length = 4 ∧
      Normal ns x' c'.reopen units ∧ c'.ranges = c.ranges ∧
      ((unitStream units).length ≠ 0 → c'.done = true ∧ c'.shares = Spec.compactSeq ns units) ∧
      ((unitStream units).length = 0 → c' = c) := by
  by_cases hD0 : (unitStream units).length = 0
  · have hk0 : (posOf (unitStream units).length).1 = 0 := by rw [hD0]; rfl
    have hie : c.isEmpty = true := by
      have hemp := h.1.isEmptyShare hc.len (posOf_fst_off _).1
      rw [hD0] at hemp
      rw [CompactSplitter.isEmpty, h.1.length, hk0, hemp]; rfl
    refine ⟨c, x, ?_, hxl, ?_, rfl, fun hne => absurd hD0 hne, fun _ => rfl⟩
    · rw [CompactSplitter.exportShares, if_pos hie, compactSeq_eq, hD0]; rfl
    · rw [reopen_of_not_done c h.1.done]; exact h
  · exact ⟨_, _, exportShares_eq hc h hxl hD0 hlt, by split <;> simp, reopen_exported hc h, rfl, fun _ => ⟨rfl, rfl⟩,
      fun h => absurd h hD0⟩

end GoSquare
