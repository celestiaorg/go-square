import GoSquare.Model.Namespace
/-! `cmpBytes` (Go `bytes.Compare`) is the three-way comparison of core's lexicographic `<` on `List UInt8`
    (`cmpBytes_eq`); everything else about it follows from core's order lemmas. -/
namespace GoSquare

theorem cmpBytes_eq (a b : Bytes) : cmpBytes a b = if a < b then -1 else if b < a then 1 else 0 := by
  fun_induction cmpBytes a b with
  | case1 => rfl
  | case2 => rfl
  | case3 => rfl
  | case4 x as y bs h => rw [if_pos (List.cons_lt_cons_iff.2 (Or.inl h))]
  | case5 x as y bs h1 h2 =>
    rw [if_neg (fun h => ?_), if_pos (List.cons_lt_cons_iff.2 (Or.inl h2))]
    rcases List.cons_lt_cons_iff.1 h with h | ⟨rfl, _⟩
    · exact h1 h
    · exact h1 h2
  | case6 x as y bs h1 h2 ih =>
    obtain rfl : x = y := UInt8.le_antisymm (UInt8.not_lt.mp h2) (UInt8.not_lt.mp h1)
    simp only [ih, List.cons_lt_cons_iff, h1, false_or, true_and]

theorem cmpBytes_range (a b : Bytes) : cmpBytes a b = -1 ∨ cmpBytes a b = 0 ∨ cmpBytes a b = 1 := by
  rw [cmpBytes_eq]; split
  · simp
  · split <;> simp

theorem cmpBytes_lt_iff (a b : Bytes) : cmpBytes a b = -1 ↔ a < b := by
  rw [cmpBytes_eq]; split
  · simp [*]
  · split <;> simp [*]

theorem cmpBytes_gt_iff (a b : Bytes) : cmpBytes a b = 1 ↔ b < a := by
  rw [cmpBytes_eq]; split
  · rename_i h; simp [List.lt_asymm h]
  · split <;> simp [*]

theorem cmpBytes_eq_iff (a b : Bytes) : cmpBytes a b = 0 ↔ a = b := by
  rw [cmpBytes_eq]; split
  · rename_i h; simp; intro e; subst e; exact List.lt_irrefl _ h
  · split
    · rename_i h; simp; intro e; subst e; exact List.lt_irrefl _ h
    · rename_i h1 h2; simp; exact List.le_antisymm h2 h1

theorem cmpBytes_swap (a b : Bytes) : cmpBytes b a = - cmpBytes a b := by
  rw [cmpBytes_eq, cmpBytes_eq]
  by_cases h1 : a < b
  · simp [h1, List.lt_asymm h1]
  · by_cases h2 : b < a <;> simp [h1, h2]

theorem cmpBytes_le_iff (a b : Bytes) : cmpBytes a b ≤ 0 ↔ a ≤ b := by
  rw [cmpBytes_eq, ← List.not_lt]; split
  · rename_i h; simp [List.lt_asymm h]
  · split <;> simp [*]

theorem cmpBytes_le_trans (a b c : Bytes) : cmpBytes a b ≤ 0 → cmpBytes b c ≤ 0 → cmpBytes a c ≤ 0 := by
  simp only [cmpBytes_le_iff]; exact List.le_trans

theorem cmpBytes_mono {a b : Bytes} (q : Bytes) (h : cmpBytes a b ≤ 0) : cmpBytes a q ≤ cmpBytes b q := by
  rcases cmpBytes_range b q with hb | hb | hb
  · rw [hb, (cmpBytes_lt_iff a q).2 (List.lt_of_le_of_lt ((cmpBytes_le_iff a b).1 h) ((cmpBytes_lt_iff b q).1 hb))]
    exact Int.le_refl _
  · cases (cmpBytes_eq_iff b q).mp hb
    exact hb ▸ h
  · have := cmpBytes_range a q; omega

theorem ne_of_cmp {a b : Bytes} {c : Int} (h : cmpBytes a b = c) (hc : c ≠ 0) : a ≠ b :=
  fun e => hc (h ▸ (cmpBytes_eq_iff a b).mpr e)

theorem equals_eq_cmp (a b : Bytes) : Ns.equals a b = (cmpBytes a b == 0) := by
  rw [Ns.equals, Bool.eq_iff_iff, beq_iff_eq, beq_iff_eq, cmpBytes_eq_iff]

end GoSquare
