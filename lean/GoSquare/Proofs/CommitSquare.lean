import GoSquare.Proofs.C05Core
import GoSquare.Proofs.Sparse
/-! # C05 for a blob placed in a square of shares

The structural theorems of `Proofs/C05Core.lean`, over an abstract leaf type, on the leaves of
go-square: the row tree takes `share.ns ‖ share`, the commitment tree `blob.ns ‖ share`, and on the
blob's own shares the two agree (`blob_leaves_eq_square_leaves`). Hence `placed_blob_roots`, for a
valid blob sitting verbatim at a width-aligned index of a `2^k × 2^k` square of shares; the hashes
are arbitrary (nothing about SHA-256 is used). -/
namespace GoSquare.CommitSquare
open Spec
open GoSquare.Nmt (rootWith Inner)

/-- the leaves of the square's row trees: `share[:29] ‖ share`, as the original-data square pushes them -/
def squareLeaves (sq : List Bytes) : List Bytes := sq.map (fun s => Share.ns s ++ s)

/-- the leaves `GenerateSubtreeRoots` pushes for a blob -/
def blobLeaves (b : Blob) : List Bytes := (sparseSeq b).map (fun s => b.ns ++ s)

/-- **C05 (leaf lemma).** On a valid blob's own shares the commitment-tree leaf `blob.ns ‖ share` is
    the row-tree leaf `share.ns ‖ share`. -/
theorem blob_leaves_eq_square_leaves (b : Blob) (hb : b.Valid) :
    (sparseSeq b).map (fun s => b.ns ++ s) = (sparseSeq b).map (fun s => Share.ns s ++ s) := by
  apply List.map_congr_left
  intro s hs
  rw [(sparseSeq_mem b hb s hs).2.1]

theorem chunks_map {β γ : Type} (f : β → γ) : ∀ (sizes : List Nat) (l : List β),
    chunks (l.map f) sizes = (chunks l sizes).map (List.map f)
  | [], _ => rfl
  | s :: ss, l => by
    simp only [chunks, List.map_cons, List.map_take]
    rw [← List.map_drop, chunks_map f ss]

theorem blobLeaves_at (sq : List Bytes) (b : Blob) (hb : b.Valid) (idx : Nat)
    (hat : (sq.drop idx).take (sparseSeq b).length = sparseSeq b) :
    ((squareLeaves sq).drop idx).take (sparseSeq b).length = blobLeaves b := by
  unfold squareLeaves blobLeaves
  rw [blob_leaves_eq_square_leaves b hb, ← List.map_drop, ← List.map_take, hat]

/-- **C05 for one placed blob.** The `c`-th subtree of the blob's mountain range lies in one row of
    the square, on exactly the blob's own leaves, and its root computed from the blob alone is the
    inner node of that row's tree over them. -/
theorem placed_blob_subtree {D : Type} (leafH : Bytes → D) (nodeH : D → D → D) (emptyH : D)
    (sq : List Bytes) (k : Nat) (hlen : sq.length = 2 ^ k * 2 ^ k)
    (b : Blob) (hb : b.Valid) (thr idx : Nat) (ht : 1 ≤ thr)
    (hn52 : (sparseSeq b).length ≤ 2 ^ 52)
    (hat : (sq.drop idx).take (sparseSeq b).length = sparseSeq b)
    (hal : idx % subTreeWidth (sparseSeq b).length thr = 0)
    (c size : Nat) (chunk : List Bytes)
    (hsize : (mmrSizes (sparseSeq b).length (subTreeWidth (sparseSeq b).length thr))[c]? = some size)
    (hchunk : (chunks (blobLeaves b)
      (mmrSizes (sparseSeq b).length (subTreeWidth (sparseSeq b).length thr)))[c]? = some chunk) :
    let pos := idx + ((mmrSizes (sparseSeq b).length (subTreeWidth (sparseSeq b).length thr)).take c).sum
    (pos + size - 1) / 2 ^ k = pos / 2 ^ k ∧
    ((C05.row (squareLeaves sq) (2 ^ k) (pos / 2 ^ k)).drop (pos % 2 ^ k)).take size = chunk ∧
    Inner leafH nodeH emptyH (C05.row (squareLeaves sq) (2 ^ k) (pos / 2 ^ k)) (pos % 2 ^ k) size
      (rootWith leafH nodeH emptyH chunk) := by
  have hn1 := sparseSeq_pos b
  have hfit := fit_of_window hn1 hat
  have hleaves := blobLeaves_at sq b hb idx hat
  generalize (sparseSeq b).length = n at *
  intro pos
  obtain ⟨hc, rfl⟩ := List.getElem?_eq_some_iff.mp hsize
  obtain ⟨_, rfl⟩ := List.getElem?_eq_some_iff.mp hchunk
  obtain ⟨j, hj, hjk, hdp, hsum⟩ := C05.mountain_aligned k idx n thr hn1 hn52 ht
    (hlen ▸ Nat.le_trans (Nat.le_add_left n idx) hfit) (Nat.dvd_of_mod_eq_zero hal) c hc
  -- the chunk of the blob's leaves is the corresponding slice of the square's leaves
  rw [C05.chunks_getElem, hj, ← hleaves, window_window _ idx n _ _ hsum]
  obtain ⟨hnc, hin⟩ := C05.block_in_row leafH nodeH emptyH (squareLeaves sq) (2 ^ k) j pos (Nat.two_pow_pos k) hjk hdp
    (by unfold squareLeaves; rw [List.length_map]; exact Nat.add_assoc .. ▸ Nat.le_trans (Nat.add_le_add_left hsum idx) hfit)
  exact ⟨C05.same_row _ pos _ (Nat.two_pow_pos j) hnc, C05.row_slice _ _ pos _ hnc, hin⟩

/-- a valid blob (data below 4 GiB) has far fewer than `2^52` shares -/
theorem sparseSeq_le (b : Blob) (hb : b.Valid) : (sparseSeq b).length ≤ 2 ^ 52 := by
  have hd := hb.dataLt
  rw [sparseSeq_length b hb, sparseSharesNeededWithSigner_eq]
  split
  · omega
  · split <;> omega

/-- (C05) `GenerateSubtreeRoots` of a valid blob: the tree roots of the mountain-range chunks of its leaves -/
theorem subtreeRootsWith_eq {D : Type} (rootOf : List Bytes → D) (b : Blob) (hb : b.Valid) (thr : Nat) :
    subtreeRootsWith rootOf b thr = .ok ((chunks (blobLeaves b)
      (mmrSizes (sparseSeq b).length (subTreeWidth (sparseSeq b).length thr))).map rootOf) := by
  obtain ⟨sh, h1, h2, _⟩ := toShares_length b hb
  subst h2
  unfold subtreeRootsWith blobLeaves
  simp only [h1]
  rw [chunks_map, List.map_map]
  rfl

/-- what C05 claims of the subtree roots `roots` of a blob with leaves `bleaves` and mountain range
    `sizes` at share index `idx` of the `2^k × 2^k` square `sq`: the `c`-th subtree lies in one row
    `r`, on the blob's own leaves, and `root` is both the tree root of those blob leaves alone and
    the inner node of the tree over row `r` that covers them -/
def RowInnerNodes {D : Type} (leafH : Bytes → D) (nodeH : D → D → D) (emptyH : D)
    (sq : List Bytes) (k idx : Nat) (bleaves : List Bytes) (sizes : List Nat) (roots : List D) : Prop :=
  roots.length = sizes.length ∧
  ∀ (c size : Nat) (root : D), sizes[c]? = some size → roots[c]? = some root →
    let start := (sizes.take c).sum
    let pos := idx + start
    let r := pos / 2 ^ k
    let off := pos % 2 ^ k
    (pos + size - 1) / 2 ^ k = r ∧
    ((C05.row (squareLeaves sq) (2 ^ k) r).drop off).take size = (bleaves.drop start).take size ∧
    root = rootWith leafH nodeH emptyH ((bleaves.drop start).take size) ∧
    Inner leafH nodeH emptyH (C05.row (squareLeaves sq) (2 ^ k) r) off size root

theorem placed_blob_roots {D : Type} (leafH : Bytes → D) (nodeH : D → D → D) (emptyH : D)
    (sq : List Bytes) (k : Nat) (hlen : sq.length = 2 ^ k * 2 ^ k)
    (b : Blob) (hb : b.Valid) (thr idx : Nat) (ht : 1 ≤ thr)
    (hat : (sq.drop idx).take (sparseSeq b).length = sparseSeq b)
    (hal : idx % subTreeWidth (sparseSeq b).length thr = 0) :
    ∃ roots, subtreeRootsWith (rootWith leafH nodeH emptyH) b thr = .ok roots ∧
      RowInnerNodes leafH nodeH emptyH sq k idx (blobLeaves b)
        (mmrSizes (sparseSeq b).length (subTreeWidth (sparseSeq b).length thr)) roots := by
  refine ⟨_, subtreeRootsWith_eq _ b hb thr, ?_, ?_⟩
  · rw [List.length_map, C05.chunks_length]
  · intro c size root hsize hroot
    rw [List.getElem?_map] at hroot
    obtain ⟨chunk, hchunk, rfl⟩ := Option.map_eq_some_iff.mp hroot
    obtain ⟨p1, p2, p3⟩ := placed_blob_subtree leafH nodeH emptyH sq k hlen b hb thr idx ht (sparseSeq_le b hb)
      hat hal c size chunk hsize hchunk
    obtain ⟨_, rfl⟩ := List.getElem?_eq_some_iff.mp hsize
    obtain ⟨_, rfl⟩ := List.getElem?_eq_some_iff.mp hchunk
    rw [C05.chunks_getElem] at p2 p3 ⊢
    exact ⟨p1, p2, rfl, p3⟩

end GoSquare.CommitSquare
