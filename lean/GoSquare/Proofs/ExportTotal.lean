import GoSquare.Proofs.Placement
import GoSquare.Proofs.Patched
import GoSquare.Proofs.SortOrder
import GoSquare.Properties.C15
/-! (C06) `Export` of a builder that has kept `N` and `B` never returns one of its defensive errors
    (maximum square size ≤ 512), and the shares actually occupied are at most the running estimate. -/
namespace GoSquare.ExportTotal
open Builder Spec

/-- (C06) none of the blob loop's checks can fire on elements as `newElement` creates them -/
theorem blobLoop_total (thr : Nat) : ∀ (es : List Element) (i : Nat) (st : BlobLoopState),
    (∀ e ∈ es, EOK e ∧ e.maxPadding = subTreeWidth e.numShares thr - 1 ∧ e.pfbIndex < st.pfbs.length) →
    st.cursor = st.endOfLastBlob →
    ((i = 0 ∧ st.shares = []) ∨ (0 < i ∧ ∃ p X, p.BlobValid ∧ st.shares = X ++ sparseSeq p)) →
    ∃ st', blobLoop thr es i st = .ok st' := by
  intro es i st hok hce hprev
  obtain ⟨c, nrs, eo, P, sh⟩ := st
  obtain rfl : c = eo := hce
  obtain ⟨prev, hw⟩ : ∃ prev, Written i prev sh := by
    rcases hprev with ⟨hi0, hsh⟩ | ⟨hipos, p, X, hpv, hsh⟩
    · exact ⟨none, Or.inl ⟨hi0, rfl, hsh⟩⟩
    · exact ⟨some p, Or.inr ⟨hipos, p, X, rfl, hpv, hsh⟩⟩
  exact ⟨_, (blobLoop_ok_iff thr es i c nrs P sh prev _ (fun e he => (hok e he).1) hw).mpr
    ⟨placeable_of_reserved thr _ es c fun e he => (hok e he).2, rfl⟩⟩

theorem maxShareOffset_newElement (bl : Blob) (p j thr : Nat) :
    (newElement bl p j thr).numShares + (subTreeWidth (newElement bl p j thr).numShares thr - 1) =
      reservation thr bl := rfl

theorem allElements_sum (thr : Nat) (B : List BlobTx) :
    ((allElements thr B).map Element.maxShareOffset).sum =
      (B.map (fun t => (t.blobs.map (reservation thr)).sum)).sum := by
  rw [allElements, List.map_flatten, sum_flatten, List.map_map,
    map_mapIdx_const (List.sum ∘ List.map Element.maxShareOffset) _ B (elementsOf thr) (elements_sum thr)]

theorem endCursor_le_estimate (thr : Nat) (N : List Bytes) (B : List BlobTx) :
    endCursor thr (startOf N B) (sortedElems thr B) ≤ closedEstimate thr N B := by
  have h := endCursor_le (placeable_sortedElems thr (startOf N B) B)
  rw [((sortedElems_perm thr B).map _).sum_nat, allElements_sum] at h
  exact h

theorem marshal_le (a b : Proto.IndexWrapper) (htx : a.tx = b.tx) (hty : a.typeId = b.typeId)
    (hlen : a.shareIndexes.length = b.shareIndexes.length)
    (ha : ∀ v ∈ a.shareIndexes, uvarintLen v ≤ 3) (hb : ∀ v ∈ b.shareIndexes, uvarintLen v = 3) :
    a.marshal.length ≤ b.marshal.length := by
  have hs : (a.shareIndexes.map uvarintLen).sum ≤ (b.shareIndexes.map uvarintLen).sum :=
    sum_map_le_of_getElem? _ _ _ _ hlen fun i x y hx hy => by
      rw [hb y (List.mem_of_getElem? hy)]; exact ha x (List.mem_of_getElem? hx)
  have hm := uvarintLen_mono _ _ hs
  unfold Proto.IndexWrapper.marshal
  rw [htx, hty, hlen]
  split
  · exact Nat.le_refl _
  · simp only [List.length_append, uvarint_length, packed_length]
    omega

theorem worstWrappers_small (B : List BlobTx) :
    ∀ iw ∈ worstWrappers B, ∀ v ∈ iw.shareIndexes, uvarintLen v = 3 := by
  intro iw hiw v hv
  obtain ⟨t, _, rfl⟩ := List.mem_map.mp hiw
  rw [(List.mem_replicate.mp hv).2, uvarintLen_of_not_lt (by decide), uvarintLen_of_not_lt (by decide),
    uvarintLen_of_lt (by decide)]

/-- (C06) the PFB shares written are at most those counted when every blob is placed below share index
    2097152 = 128³: a recorded index then has a varint of at most three bytes, the size of the placeholder
    16384 = 128² -/
theorem patched_size_le (thr : Nat) (N : List Bytes) (B : List BlobTx)
    (hend : endCursor thr (startOf N B) (sortedElems thr B) < 2097152) :
    (compactSeq payForBlobNamespace ((patched thr N B).map (·.marshal))).length ≤ pfbShareCount B := by
  have hw := worstWrappers_small B
  have hsm : ∀ a ∈ patched thr N B, ∀ v ∈ a.shareIndexes, uvarintLen v ≤ 3 := by
    intro a ha v hv
    rcases mem_patchAll ha hv with ⟨iw, hiw, hvi⟩ | ⟨idx, hidx, rfl⟩
    · exact Nat.le_of_eq (hw iw hiw v hvi)
    · have := placeIdx_le_endCursor thr _ _ idx hidx
      rw [u32_of_lt (by omega)]
      exact uvarintLen_le_of_lt 3 _ (show idx < 128 ^ 3 by omega) (by omega)
  have hlen := patchAll_length thr (sortedElems thr B) (startOf N B) (worstWrappers B)
  rw [pfbShareCount_eq, compactSeq_length, compactSeq_length, ← sizeOf_eq_compactSharesNeeded,
    ← sizeOf_eq_compactSharesNeeded, unitStream_length', unitStream_length', List.map_map, List.map_map]
  -- wrapper by wrapper: same inner transaction and number of indexes, shorter or equal index varints
  refine sizeOf_mono (sum_map_le_of_getElem? _ _ _ _ hlen fun i a b ha hb => ?_)
  have ha3 := hsm a (List.mem_of_getElem? ha)
  -- `a` is `b` with the recorded indexes in its index positions
  rw [patched, patchAll_eq, List.getElem?_mapIdx, hb] at ha
  obtain rfl := Option.some.inj ha
  have hm := marshal_le (recordIn _ i b) b rfl rfl List.length_mapIdx ha3 (hw b (List.mem_of_getElem? hb))
  have := uvarintLen_mono _ _ hm
  simp only [Function.comp, unitBytes]
  omega

theorem writeSquare_total (txW pfbW tw pw : CompactSplitter) (bs : List Bytes) (nrs ss : Nat)
    (txS pfbS : List Bytes)
    (htx : txW.exportShares = .ok (tw, txS)) (hpfb : pfbW.exportShares = .ok (pw, pfbS))
    (h1 : txW.count + pfbW.count ≤ nrs) (h2 : nrs + bs.length ≤ ss * ss) :
    ∃ sq, writeSquare txW pfbW bs nrs ss = .ok sq :=
  (writeSquare_ok txW pfbW tw pw bs nrs ss txS pfbS htx hpfb h1 h2).imp fun _ h => h.1

/-- (C06) the share index after the last blob share is at most the closed-form estimate -/
theorem occupied_le_estimate (thr : Nat) (N : List Bytes) (B : List BlobTx)
    (hv : ∀ t ∈ B, ∀ bl ∈ t.blobs, bl.BlobValid) :
    firstIdx thr (startOf N B) (sortedElems thr B) +
      (region thr (startOf N B) none (sortedElems thr B)).length ≤ closedEstimate thr N B := by
  rw [region_end thr (startOf N B) (sortedElems thr B) (eok_sortedElems thr B hv)]
  exact endCursor_le_estimate thr N B

/-- what the maximum is needed for: `patched_size_le` -/
theorem export_succeeds_of_small (b : Builder) (N : List Bytes) (B : List BlobTx) (hk : Kept b N B)
    (hv : ∀ t ∈ B, ∀ bl ∈ t.blobs, bl.BlobValid) (hsmall : b.maxSquareSize * b.maxSquareSize < 2097152) :
    ∃ b' sq, b.exportSquare = .ok (b', sq) := by
  by_cases hne : N = [] ∧ B = []
  · obtain ⟨rfl, rfl⟩ := hne
    exact ⟨_, _, hk.exportSquare_nil⟩
  have hlt : closedEstimate b.thr N B < 2097152 := Nat.lt_of_le_of_lt hk.fit hsmall
  obtain ⟨_, hss, _⟩ := C15.minSquare_least' (closedEstimate b.thr N B) (by omega)
  have hsize := patched_size_le b.thr N B (Nat.lt_of_le_of_lt (endCursor_le_estimate b.thr N B) hlt)
  refine ⟨_, _, (hk.exportSquare_ok_iff hv (by omega) hne _ _).mpr ⟨hsize, ?_, ?_, rfl, rfl⟩⟩
  · rw [← txShareCount_eq]
    exact Nat.le_trans (Nat.add_le_add_left hsize _) (start_le_firstIdx b.thr (startOf N B) (sortedElems b.thr B))
  · exact Nat.le_trans (occupied_le_estimate b.thr N B hv) hss

/-- **(C06) greedy building returns no error.** None of the defensive checks of `Export`, of its blob
    loop, or of `WriteSquare` can fire on a builder that has kept `N` and `B` (blob-valid blobs). -/
theorem export_succeeds (b : Builder) (N : List Bytes) (B : List BlobTx) (hk : Kept b N B)
    (hv : ∀ t ∈ B, ∀ bl ∈ t.blobs, bl.BlobValid) (ht : 1 ≤ b.thr)
    (hmaxp : Nat.isPowerOfTwo b.maxSquareSize) (hmax : b.maxSquareSize ≤ 512) :
    ∃ b' sq, b.exportSquare = .ok (b', sq) := by
  -- `ht`, `hmaxp` are part of the property's statement; the proof does not need them
  have _ := ht
  have _ := hmaxp
  have h1 : b.maxSquareSize * b.maxSquareSize ≤ 512 * 512 := Nat.mul_le_mul hmax hmax
  exact export_succeeds_of_small b N B hk hv (by omega)

end GoSquare.ExportTotal
