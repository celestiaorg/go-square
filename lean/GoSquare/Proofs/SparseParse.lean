import GoSquare.Proofs.Sparse
import GoSquare.Model.Parse
/-! The sparse reader on specified shares (C08): what the share loop of `parseSparseShares` does on padding, first
    and continuation shares, and that the specified shares are of these kinds. -/
namespace GoSquare
open Spec

/-- a blob as the properties quantify over it: `Valid`, and the three checks of `ValidateForBlob` the reader needs -/
structure Blob.BlobValid (b : Blob) : Prop where
  valid : b.Valid
  notTail : Ns.isTailPadding b.ns = false
  notResPad : Ns.isPrimaryReservedPadding b.ns = false
  nsVer : Ns.version b.ns = 0

theorem Blob.new_of_blobValid {b : Blob} (hb : b.BlobValid) : Blob.new b.ns b.data b.ver b.signer = some b := by
  obtain ⟨⟨hns, _, hver, hsig, hd, _⟩, _, _, hnv⟩ := hb
  refine Blob.new_eq_some_iff.mpr ⟨⟨?_, ?_, hnv, ?_⟩, rfl⟩
  · intro e; rw [e] at hd; cases hd
  · intro e; rw [e] at hns; cases hns
  · rcases hver with h | h
    · exact Or.inl ⟨h, hsig.1 h⟩
    · exact Or.inr ⟨h, hsig.2 h⟩

def IsPad (s : Bytes) : Prop := Share.checkVersionSupported s = true ∧ Share.isPadding s = true
/-- a share the reader takes for data, opening a sequence (`start`) or continuing the last one -/
def IsData (s : Bytes) (start : Bool) : Prop :=
  Share.checkVersionSupported s = true ∧ Share.isPadding s = false ∧ Share.isSequenceStart s = start

theorem loop_pad (pads rest : List Bytes) (seqs : List SparseSeq) (h : ∀ p ∈ pads, IsPad p) :
    parseSparseLoop (pads ++ rest) seqs = parseSparseLoop rest seqs := by
  induction pads with
  | nil => rfl
  | cons p ps ih =>
    obtain ⟨h1, h2⟩ := h p List.mem_cons_self
    simp only [List.cons_append, parseSparseLoop, h1, h2]
    exact ih fun x hx => h x (List.mem_cons_of_mem _ hx)

theorem loop_first (s : Bytes) (rest : List Bytes) (seqs : List SparseSeq) (h : IsData s true) :
    parseSparseLoop (s :: rest) seqs =
      parseSparseLoop rest (seqs ++ [{ ns := Share.ns s, ver := Share.version s, data := Share.rawData s,
                                       seqLen := Share.sequenceLen s, signer := Share.signer s }]) := by
  obtain ⟨h1, h2, h3⟩ := h
  simp [parseSparseLoop, h1, h2, h3]

theorem loop_cont (conts rest : List Bytes) (seqs : List SparseSeq) (q : SparseSeq) (h : ∀ c ∈ conts, IsData c false) :
    parseSparseLoop (conts ++ rest) (seqs ++ [q]) =
      parseSparseLoop rest (seqs ++ [{ q with data := q.data ++ (conts.map Share.rawData).flatten }]) := by
  induction conts generalizing q with
  | nil => simp
  | cons c cs ih =>
    obtain ⟨h1, h2, h3⟩ := h c List.mem_cons_self
    simp only [List.cons_append, parseSparseLoop, h1, h2, h3, Bool.false_eq_true, if_false,
      List.getLast?_append, List.getLast?_singleton, Option.some_or, List.dropLast_concat]
    rw [ih _ fun x hx => h x (List.mem_cons_of_mem _ hx)]
    simp [List.append_assoc]

theorem supported_of_version {s : Bytes} {v : Nat} (h : Share.version s = v) (hv : v = 0 ∨ v = 1) :
    Share.checkVersionSupported s = true := by
  rw [Share.checkVersionSupported, h]; rcases hv with h | h <;> simp [h]

/-- padding is marked by its namespace or by opening a sequence of length 0 -/
theorem isData_of_decoded {b : Blob} (hb : b.BlobValid) {s : Bytes} {st : Bool} (d : ShareDecoded s b.ns b.ver st)
    (h : st = true → Share.sequenceLen s = b.data.length) : IsData s st := by
  refine ⟨supported_of_version d.version hb.valid.ver, ?_, d.start⟩
  have hpos : st = true → Share.sequenceLen s ≠ 0 := fun e => by rw [h e]; exact Nat.ne_of_gt hb.valid.dataPos
  simpa [Share.isPadding, Share.isNamespacePadding, d.start, d.ns, hb.notTail, hb.notResPad] using hpos

theorem paddingShare_isPad (ns : Bytes) (ver : Nat) (hns : ns.length = 29) (hv : ver = 0 ∨ ver = 1) :
    IsPad (paddingShare ns ver) := by
  have hv' : ver ≤ 127 := by omega
  refine ⟨supported_of_version (fill_share_decoded hns ver true _ hv').version hv, ?_⟩
  rw [paddingShare, fill_share _ _ _ hns]
  simp [Share.isPadding, Share.isNamespacePadding, start_of_cons hns _ _ _ hv', sequenceLen_of_cons hns _ _ _ hv',
    readBe32_be32 0 (by omega)]

end GoSquare
