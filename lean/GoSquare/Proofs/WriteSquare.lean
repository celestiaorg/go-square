import GoSquare.Proofs.Builder
import GoSquare.Properties.C10
/-! `WriteSquare`. Whatever the two writers export: it fails only on its two checks (or with a writer's
    `Export`) and returns side² shares. For writers that export as many shares as they count it returns
    tx shares ‖ pfb shares ‖ reserved padding ‖ blob shares ‖ tail padding. -/
namespace GoSquare
open Builder

theorem copyAt_ok {α} {dst : List α} {n i : Nat} (src : List α) (hn : dst.length = n) (hi : i ≤ n) :
    ∃ r, copyAt dst i src = .ok r ∧ r.length = n := by
  subst hn
  refine ⟨_, if_neg (Nat.not_lt.mpr hi), ?_⟩
  rw [List.length_append, List.length_append, List.length_take_of_le hi, List.length_take_of_le (Nat.min_le_left ..),
    List.length_drop]
  exact Nat.add_sub_cancel' (Nat.add_le_of_le_sub' hi (Nat.min_le_right ..))

theorem copyAt_bind_ok {α β} {dst : List α} {n i : Nat} {src : List α} (hn : dst.length = n) (hi : i ≤ n)
    {f : List α → Res β} {P : β → Prop} (hf : ∀ r, r.length = n → ∃ x, f r = .ok x ∧ P x) :
    ∃ x, (copyAt dst i src >>= f) = .ok x ∧ P x := by
  obtain ⟨r, e, hr⟩ := copyAt_ok src hn hi
  rw [e]
  exact hf r hr

theorem writeSquare_inv {txW pfbW : CompactSplitter} {bs : List Bytes} {nrs ss : Nat} {sq : List Bytes}
    (h : writeSquare txW pfbW bs nrs ss = .ok sq) :
    txW.count + pfbW.count ≤ nrs ∧ nrs + bs.length ≤ ss * ss ∧
    ∃ tw txS pw pfbS, txW.exportShares = .ok (tw, txS) ∧ pfbW.exportShares = .ok (pw, pfbS) := by
  obtain ⟨_, _, h2⟩ := res_bind_ok' (ok_of_guard h)
  obtain ⟨⟨tw, txS⟩, htx, h3⟩ := res_bind_ok' (ok_of_guard h2)
  obtain ⟨⟨pw, pfbS⟩, hpfb, _⟩ := res_bind_ok' h3
  exact ⟨Nat.le_of_not_lt (not_of_guard h), Nat.le_of_not_lt (not_of_guard h2), tw, txS, pw, pfbS, htx, hpfb⟩

theorem writeSquare_ok (txW pfbW tw pw : CompactSplitter) (bs : List Bytes) (nrs ss : Nat) (txS pfbS : List Bytes)
    (htx : txW.exportShares = .ok (tw, txS)) (hpfb : pfbW.exportShares = .ok (pw, pfbS))
    (h1 : txW.count + pfbW.count ≤ nrs) (h2 : nrs + bs.length ≤ ss * ss) :
    ∃ sq, writeSquare txW pfbW bs nrs ss = .ok sq ∧ sq.length = ss * ss := by
  have b3 : nrs ≤ ss * ss := Nat.le_trans (Nat.le_add_right _ _) h2
  have b2 : txW.count + pfbW.count ≤ ss * ss := Nat.le_trans h1 b3
  have b1 : txW.count ≤ ss * ss := Nat.le_trans (Nat.le_add_right _ _) b2
  have tail : ∀ sq : List Bytes, sq.length = ss * ss → ∃ x, (if ss * ss > nrs + bs.length then
      (tailPaddingShares (ss * ss - (nrs + bs.length))).mapError (fun _ => Err.panic) >>= fun t =>
        copyAt sq (nrs + bs.length) t
      else pure sq) = .ok x ∧ x.length = ss * ss := by
    intro sq hl
    split
    · rw [(C10.reserved_and_tail_padding _).2, mapError_ok]
      exact copyAt_ok _ hl h2
    · exact ⟨sq, rfl, hl⟩
  -- the guards and the two exports one at a time: `simp` on the whole body is slow to check
  unfold writeSquare
  dsimp only
  rw [if_neg (Nat.not_lt.mpr h1), (C10.reserved_and_tail_padding _).1, mapError_ok, res_bind_ok,
    if_neg (Nat.not_lt.mpr h2), htx, res_bind_ok]
  rw [hpfb, res_bind_ok]
  refine copyAt_bind_ok (List.length_replicate ..) (Nat.zero_le _) fun s1 l1 => ?_
  refine copyAt_bind_ok l1 b1 fun s2 l2 => ?_
  by_cases g3 : bs.length > 0
  · rw [if_pos g3]
    refine copyAt_bind_ok l2 b2 fun s3 l3 => ?_
    exact copyAt_bind_ok l3 b3 fun s4 l4 => tail s4 l4
  · rw [if_neg g3]
    exact tail s2 l2

theorem writeSquare_length (txW pfbW : CompactSplitter) (bs : List Bytes) (nrs ss : Nat) (sq : List Bytes)
    (h : writeSquare txW pfbW bs nrs ss = .ok sq) : sq.length = ss * ss := by
  obtain ⟨g1, g2, tw, txS, pw, pfbS, htx, hpfb⟩ := writeSquare_inv h
  obtain ⟨sq', e, hl⟩ := writeSquare_ok txW pfbW tw pw bs nrs ss txS pfbS htx hpfb g1 g2
  rw [h] at e
  cases e
  exact hl

theorem copyAt_fill (a src : List Bytes) (T i : Nat) (hi : a.length = i) (h : i + src.length ≤ T) :
    copyAt (a ++ List.replicate (T - i) []) i src = .ok (a ++ src ++ List.replicate (T - (i + src.length)) []) := by
  subst hi
  unfold copyAt
  rw [if_neg (Nat.not_lt.mpr (List.length_append ▸ Nat.le_add_right ..)), List.length_append,
    Nat.add_sub_cancel_left, List.length_replicate, Nat.min_eq_left (Nat.le_sub_of_add_le' h)]
  dsimp only
  rw [List.take_left, List.take_length, List.drop_length_add_append, List.drop_replicate, Nat.sub_sub]

theorem copyAt_tail (a : List Bytes) (T i : Nat) (x : Bytes) (hi : a.length = i) (h : i ≤ T) :
    (if T > i then copyAt (a ++ List.replicate (T - i) []) i (List.replicate (T - i) x)
      else .ok (a ++ List.replicate (T - i) [])) = .ok (a ++ List.replicate (T - i) x) := by
  by_cases hlt : T > i
  · rw [if_pos hlt, copyAt_fill a _ T i hi (by rw [List.length_replicate, Nat.add_sub_cancel' h]; exact Nat.le_refl _),
      List.length_replicate, Nat.add_sub_cancel' h, Nat.sub_self, List.replicate_zero, List.append_nil]
  · rw [if_neg hlt, Nat.sub_eq_zero_of_le (Nat.le_of_not_lt hlt)]; rfl

/-- `hbs`: without blobs `WriteSquare` writes no reserved padding, so the start index has to be the end
    of the compact shares -/
theorem writeSquare_ok_iff (txW pfbW tw pw : CompactSplitter) (bs : List Bytes) (nrs ss : Nat)
    (sq txS pfbS : List Bytes)
    (htx : txW.exportShares = .ok (tw, txS)) (hpfb : pfbW.exportShares = .ok (pw, pfbS))
    (hl1 : txS.length = txW.count) (hl2 : pfbS.length = pfbW.count)
    (hbs : bs = [] → nrs = txW.count + pfbW.count) :
    writeSquare txW pfbW bs nrs ss = .ok sq ↔
      txW.count + pfbW.count ≤ nrs ∧ nrs + bs.length ≤ ss * ss ∧
      sq = txS ++ pfbS ++
         List.replicate (nrs - (txW.count + pfbW.count)) (Spec.paddingShare primaryReservedPaddingNamespace 0) ++
         bs ++
         List.replicate (ss * ss - (nrs + bs.length)) (Spec.paddingShare tailPaddingNamespace 0) := by
  unfold writeSquare
  simp only [bind, Except.bind,
    (C10.reserved_and_tail_padding _).1, (C10.reserved_and_tail_padding _).2, mapError_ok, htx, hpfb]
  by_cases h1 : nrs < txW.count + pfbW.count
  · rw [if_pos h1]; exact ⟨nofun, fun h => absurd h.1 (Nat.not_le.mpr h1)⟩
  rw [if_neg h1]
  by_cases h2 : ss * ss < nrs + bs.length
  · rw [if_pos h2]; exact ⟨nofun, fun h => absurd h.2.1 (Nat.not_le.mpr h2)⟩
  rw [if_neg h2]
  have g1 := Nat.le_of_not_lt h1
  have g2 := Nat.le_of_not_lt h2
  have b3 : nrs ≤ ss * ss := Nat.le_trans (Nat.le_add_right _ _) g2
  have b2 : txW.count + pfbW.count ≤ ss * ss := Nat.le_trans g1 b3
  -- every `copy` goes to the end of what has been written, the rest of the square is still blank
  refine Iff.trans (Iff.of_eq (congrArg (· = Except.ok sq) ?_))
    ⟨fun h => ⟨g1, g2, (Except.ok.inj h).symm⟩, fun h => congrArg Except.ok h.2.2.symm⟩
  rw [show List.replicate (ss * ss) ([] : Bytes) = [] ++ List.replicate (ss * ss - 0) [] from rfl,
    copyAt_fill [] txS _ 0 rfl (by rw [Nat.zero_add, hl1]; exact Nat.le_trans (Nat.le_add_right _ _) b2)]
  simp only [List.nil_append, Nat.zero_add, hl1]
  rw [copyAt_fill txS pfbS _ _ hl1 (by rw [hl2]; exact b2)]
  simp only [hl2]
  have hl3 : (txS ++ pfbS).length = txW.count + pfbW.count := by rw [List.length_append, hl1, hl2]
  by_cases g3 : bs.length > 0
  · have hl4 : (txS ++ pfbS ++ List.replicate (nrs - (txW.count + pfbW.count))
        (Spec.paddingShare primaryReservedPaddingNamespace 0)).length = nrs := by
      rw [List.length_append, hl3, List.length_replicate, Nat.add_sub_cancel' g1]
    rw [if_pos g3, copyAt_fill (txS ++ pfbS) _ _ _ hl3 (by rw [List.length_replicate, Nat.add_sub_cancel' g1]; exact b3),
      List.length_replicate, Nat.add_sub_cancel' g1]
    simp only []
    rw [copyAt_fill _ bs _ nrs hl4 g2]
    exact copyAt_tail _ _ _ _ (by rw [List.length_append, hl4]) g2
  · rw [if_neg g3]
    obtain rfl : bs = [] := List.eq_nil_of_length_eq_zero (Nat.eq_zero_of_not_pos g3)
    obtain rfl := hbs rfl
    simp only [Nat.sub_self, List.replicate_zero, List.append_nil] at g2 ⊢
    exact copyAt_tail (txS ++ pfbS) _ _ _ hl3 g2

/-- (C03) a successful `WriteSquare` returns tx shares ‖ pfb shares ‖ reserved padding ‖ blob shares ‖ tail
    padding, for writers that export as many shares as they count -/
theorem writeSquare_concat (txW pfbW tw pw : CompactSplitter) (bs : List Bytes) (nrs ss : Nat)
    (sq txS pfbS : List Bytes)
    (htx : txW.exportShares = .ok (tw, txS)) (hpfb : pfbW.exportShares = .ok (pw, pfbS))
    (hl1 : txS.length = txW.count) (hl2 : pfbS.length = pfbW.count)
    (hbs : bs = [] → nrs = txW.count + pfbW.count)
    (h : writeSquare txW pfbW bs nrs ss = .ok sq) :
    sq = txS ++ pfbS ++
         List.replicate (nrs - (txW.count + pfbW.count)) (Spec.paddingShare primaryReservedPaddingNamespace 0) ++
         bs ++
         List.replicate (ss * ss - (nrs + bs.length)) (Spec.paddingShare tailPaddingNamespace 0) ∧
    txW.count + pfbW.count ≤ nrs ∧ nrs + bs.length ≤ ss * ss := by
  obtain ⟨g1, g2, e⟩ := (writeSquare_ok_iff txW pfbW tw pw bs nrs ss sq txS pfbS htx hpfb hl1 hl2 hbs).mp h
  exact ⟨e, g1, g2⟩

theorem emptySquare_eq : Builder.emptySquare = .ok [Spec.paddingShare tailPaddingNamespace 0] := by
  unfold Builder.emptySquare
  rw [(C10.reserved_and_tail_padding 1).2]
  rfl

end GoSquare
