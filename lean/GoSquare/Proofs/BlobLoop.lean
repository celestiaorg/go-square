import GoSquare.Proofs.SparseParse
import GoSquare.Proofs.Builder
/-! The blob loop of `Export`: it succeeds exactly when every blob is placeable, and then ends in a
    closed form: the shares it has written (`region`), the indexes it has recorded (`patchAll`). -/
namespace GoSquare
open Builder Spec

def placeIdx (thr : Nat) : Nat → List Element → List Nat
  | _, [] => []
  | cur, e :: es =>
    nextShareIndex cur e.numShares thr :: placeIdx thr (nextShareIndex cur e.numShares thr + e.numShares) es

theorem placeIdx_length (thr : Nat) : ∀ (es : List Element) (cur : Nat), (placeIdx thr cur es).length = es.length
  | [], _ => rfl
  | e :: es, cur => by
    simp only [placeIdx, List.length_cons, placeIdx_length thr es]

def endCursor (thr : Nat) : Nat → List Element → Nat
  | cur, [] => cur
  | cur, e :: es => endCursor thr (nextShareIndex cur e.numShares thr + e.numShares) es

/-- the blob region: padding before a blob is in the namespace and share version of the preceding blob -/
def region (thr : Nat) : Nat → Option Blob → List Element → List Bytes
  | _, _, [] => []
  | cur, prev, e :: es =>
    (match prev with
      | some p => List.replicate (nextShareIndex cur e.numShares thr - cur) (paddingShare p.ns p.ver)
      | none => []) ++
    sparseSeq e.blob ++ region thr (nextShareIndex cur e.numShares thr + e.numShares) (some e.blob) es

def padAfter (prev : Option Blob) (k : Nat) : List Bytes :=
  match prev with
  | some p => List.replicate k (paddingShare p.ns p.ver)
  | none => []

theorem region_cons (thr cur : Nat) (prev : Option Blob) (e : Element) (es : List Element) :
    region thr cur prev (e :: es) = padAfter prev (nextShareIndex cur e.numShares thr - cur) ++
      sparseSeq e.blob ++ region thr (nextShareIndex cur e.numShares thr + e.numShares) (some e.blob) es := rfl

/-- `nonReservedStart` after the loop -/
def firstIdx (thr start : Nat) : List Element → Nat
  | [] => start
  | e :: _ => nextShareIndex start e.numShares thr

def patchOne (pfbs : List Proto.IndexWrapper) (e : Element) (idx : Nat) : List Proto.IndexWrapper :=
  pfbs.modify e.pfbIndex (fun iw => { iw with shareIndexes := iw.shareIndexes.set e.blobIndex (u32 idx) })

def patchAll (thr : Nat) : Nat → List Element → List Proto.IndexWrapper → List Proto.IndexWrapper
  | _, [], p => p
  | cur, e :: es, p =>
    patchAll thr (nextShareIndex cur e.numShares thr + e.numShares) es (patchOne p e (nextShareIndex cur e.numShares thr))

/-- an element as `newElement` creates it from a blob-valid blob -/
def EOK (e : Element) : Prop := e.blob.BlobValid ∧ e.numShares = (sparseSeq e.blob).length

theorem patchOne_length (p : List Proto.IndexWrapper) (e : Element) (idx : Nat) : (patchOne p e idx).length = p.length := by
  simp [patchOne]

theorem patchAll_length (thr : Nat) : ∀ (es : List Element) (cur : Nat) (p : List Proto.IndexWrapper),
    (patchAll thr cur es p).length = p.length
  | [], _, _ => rfl
  | e :: es, cur, p => by rw [patchAll, patchAll_length thr es, patchOne_length]

theorem region_nil_iff (thr cur : Nat) (prev : Option Blob) (es : List Element) :
    region thr cur prev es = [] ↔ es = [] := by
  cases es with
  | nil => simp [region]
  | cons e es => simp [region, sparseSeq]

theorem start_le_firstIdx (thr cur : Nat) (es : List Element) : cur ≤ firstIdx thr cur es := by
  cases es with
  | nil => exact Nat.le_refl _
  | cons e es => exact le_nextShareIndex cur e.numShares thr

def writeStep (i : Nat) (sh : List Bytes) (padding : Nat) (blob : Blob) : Res (List Bytes) :=
  (if i > 0 then sparseWritePadding sh padding else .ok sh) >>= fun s => sparseWrite s blob

theorem blobLoop_cons (thr : Nat) (e : Element) (rest : List Element) (i : Nat) (st : BlobLoopState) :
    blobLoop thr (e :: rest) i st =
      if nextShareIndex st.cursor e.numShares thr - st.endOfLastBlob > e.maxPadding then .error .err
      else if e.pfbIndex ≥ st.pfbs.length then .error .panic
      else (writeStep i st.shares (nextShareIndex st.cursor e.numShares thr - st.endOfLastBlob) e.blob) >>= fun sh =>
        blobLoop thr rest (i + 1)
          { cursor := nextShareIndex st.cursor e.numShares thr + e.numShares,
            nonReservedStart := if i = 0 then nextShareIndex st.cursor e.numShares thr else st.nonReservedStart,
            endOfLastBlob := nextShareIndex st.cursor e.numShares thr + e.numShares,
            pfbs := patchOne st.pfbs e (nextShareIndex st.cursor e.numShares thr),
            shares := sh } := by
  -- case by case and `rfl`: rewriting the monadic plumbing of the whole body is slow to check
  rw [blobLoop]
  by_cases h1 : nextShareIndex st.cursor e.numShares thr - st.endOfLastBlob > e.maxPadding
  · rw [if_pos h1, if_pos h1]; rfl
  · rw [if_neg h1, if_neg h1]
    by_cases h2 : e.pfbIndex ≥ st.pfbs.length
    · rw [if_pos h2, if_pos h2]; rfl
    · rw [if_neg h2, if_neg h2]
      unfold writeStep
      by_cases h3 : i > 0
      · rw [if_pos h3, if_pos h3]
        cases sparseWritePadding st.shares (nextShareIndex st.cursor e.numShares thr - st.endOfLastBlob) <;> rfl
      · rw [if_neg h3, if_neg h3]; rfl

/-- the blob loop reads the wrappers' list only through its length -/
theorem blobLoop_swap (thr : Nat) (es : List Element) : ∀ (i c n eo : Nat) (sh : List Bytes)
    (P P' : List Proto.IndexWrapper), P.length = P'.length →
    blobLoop thr es i ⟨c, n, eo, P', sh⟩ =
      (blobLoop thr es i ⟨c, n, eo, P, sh⟩).map (fun f => { f with pfbs := patchAll thr c es P' }) := by
  induction es with
  | nil => exact fun i c n eo sh P P' _ => rfl
  | cons e rest ih =>
    intro i c n eo sh P P' hl
    rw [blobLoop_cons, blobLoop_cons]
    simp only [hl]
    by_cases h1 : nextShareIndex c e.numShares thr - eo > e.maxPadding
    · rw [if_pos h1, if_pos h1]; rfl
    rw [if_neg h1, if_neg h1]
    by_cases h2 : e.pfbIndex ≥ P'.length
    · rw [if_pos h2, if_pos h2]; rfl
    rw [if_neg h2, if_neg h2]
    cases writeStep i sh (nextShareIndex c e.numShares thr - eo) e.blob with
    | error x => rfl
    | ok sh' => exact ih _ _ _ _ _ _ _ (by rw [patchOne_length, patchOne_length, hl])

/-- for any elements: C14 assumes no validity -/
theorem blobLoop_pfbs (thr : Nat) (es : List Element) (i : Nat) (st st' : BlobLoopState)
    (h : blobLoop thr es i st = .ok st') : st'.pfbs = patchAll thr st.cursor es st.pfbs := by
  have := blobLoop_swap thr es i st.cursor st.nonReservedStart st.endOfLastBlob st.shares st.pfbs st.pfbs rfl
  rw [h] at this
  exact congrArg BlobLoopState.pfbs (Except.ok.inj this)

/-- what the loop has written before round `i`: nothing, or shares that end with those of `prev` (the
    padding writer takes namespace and share version from the last share written) -/
def Written (i : Nat) (prev : Option Blob) (shares : List Bytes) : Prop :=
  (i = 0 ∧ prev = none ∧ shares = []) ∨
  (0 < i ∧ ∃ p X, prev = some p ∧ p.BlobValid ∧ shares = X ++ sparseSeq p)

theorem writeStep_eq {i : Nat} {prev : Option Blob} {sh : List Bytes} (hw : Written i prev sh) {blob : Blob}
    (hbv : blob.BlobValid) (k : Nat) :
    writeStep i sh k blob = .ok (sh ++ padAfter prev k ++ sparseSeq blob) ∧
    Written (i + 1) (some blob) (sh ++ padAfter prev k ++ sparseSeq blob) := by
  refine ⟨?_, Or.inr ⟨Nat.succ_pos i, blob, _, rfl, hbv, rfl⟩⟩
  unfold writeStep
  rcases hw with ⟨rfl, rfl, rfl⟩ | ⟨hi, p, X, rfl, hpv, rfl⟩
  · exact sparseWrite_eq_spec [] blob hbv.valid
  · rw [if_pos hi, sparseWritePadding_after X p hpv.valid]
    exact sparseWrite_eq_spec _ blob hbv.valid

/-- the two checks of the blob loop, for every blob in write order from cursor `cur`, with `n` wrappers -/
def Placeable (thr n : Nat) : Nat → List Element → Prop
  | _, [] => True
  | cur, e :: es =>
    nextShareIndex cur e.numShares thr - cur ≤ e.maxPadding ∧ e.pfbIndex < n ∧
      Placeable thr n (nextShareIndex cur e.numShares thr + e.numShares) es

/-- the blob loop succeeds exactly when `Placeable`, and then ends in the closed-form state -/
theorem blobLoop_ok_iff (thr : Nat) : ∀ (es : List Element) (i c nrs : Nat) (P : List Proto.IndexWrapper)
    (sh : List Bytes) (prev : Option Blob) (st' : BlobLoopState), (∀ e ∈ es, EOK e) → Written i prev sh →
    (blobLoop thr es i ⟨c, nrs, c, P, sh⟩ = .ok st' ↔ Placeable thr P.length c es ∧
      st' = { cursor := endCursor thr c es,
              nonReservedStart := if i = 0 then (match es with
                | [] => nrs
                | e :: _ => nextShareIndex c e.numShares thr) else nrs,
              endOfLastBlob := endCursor thr c es,
              pfbs := patchAll thr c es P,
              shares := sh ++ region thr c prev es }) := by
  intro es
  induction es with
  | nil =>
    simp [blobLoop, Placeable, endCursor, patchAll, region, eq_comm]
  | cons e rest ih =>
    intro i c nrs P sh prev st' hok hw
    have he := hok e List.mem_cons_self
    rw [blobLoop_cons]
    rw [(writeStep_eq hw he.1 _).1, res_bind_ok]
    by_cases h1 : nextShareIndex c e.numShares thr - c > e.maxPadding
    · rw [if_pos h1]; exact ⟨nofun, fun h => absurd h.1.1 (Nat.not_le.mpr h1)⟩
    rw [if_neg h1]
    by_cases h2 : e.pfbIndex ≥ P.length
    · rw [if_pos h2]; exact ⟨nofun, fun h => absurd h.1.2.1 (Nat.not_lt.mpr h2)⟩
    rw [if_neg h2, ih (i + 1) _ _ _ _ (some e.blob) st' (fun x hx => hok x (List.mem_cons_of_mem e hx)) (writeStep_eq hw he.1 _).2]
    rw [patchOne_length, region_cons, ← List.append_assoc sh, ← List.append_assoc sh]
    exact and_congr_left' ⟨fun h => ⟨Nat.le_of_not_lt h1, Nat.lt_of_not_le h2, h⟩, fun h => h.2.2⟩

theorem blobLoop_start_ok_iff (thr start : Nat) (es : List Element) (P : List Proto.IndexWrapper) (st' : BlobLoopState)
    (hok : ∀ e ∈ es, EOK e) :
    blobLoop thr es 0 ⟨start, start, start, P, []⟩ = .ok st' ↔ Placeable thr P.length start es ∧
      st' = ⟨endCursor thr start es, firstIdx thr start es, endCursor thr start es, patchAll thr start es P,
        region thr start none es⟩ := by
  rw [blobLoop_ok_iff thr es 0 start start P [] none st' hok (Or.inl ⟨rfl, rfl, rfl⟩)]
  cases es <;> rfl

/-- (C03) the blob loop in closed form: the shares written are `region`, the indexes recorded `patchAll` -/
theorem blobLoop_spec (thr : Nat) : ∀ (es : List Element) (i : Nat) (st st' : BlobLoopState) (prev : Option Blob),
    (∀ e ∈ es, EOK e) → st.cursor = st.endOfLastBlob →
    ((i = 0 ∧ prev = none ∧ st.shares = []) ∨
     (0 < i ∧ ∃ p X, prev = some p ∧ p.BlobValid ∧ st.shares = X ++ sparseSeq p)) →
    blobLoop thr es i st = .ok st' →
    st'.shares = st.shares ++ region thr st.cursor prev es ∧
    st'.pfbs = patchAll thr st.cursor es st.pfbs ∧
    st'.cursor = endCursor thr st.cursor es ∧ st'.endOfLastBlob = st'.cursor ∧
    st'.nonReservedStart = (if i = 0 then (match es with
        | [] => st.nonReservedStart
        | e :: _ => nextShareIndex st.cursor e.numShares thr) else st.nonReservedStart) := by
  intro es i st st' prev hok hce hw h
  obtain ⟨c, nrs, eo, P, sh⟩ := st
  obtain rfl : c = eo := hce
  obtain ⟨_, rfl⟩ := (blobLoop_ok_iff thr es i c nrs P sh prev st' hok hw).mp h
  exact ⟨rfl, rfl, rfl, rfl, rfl⟩

theorem placeable_of_reserved (thr n : Nat) (es : List Element) (cur : Nat)
    (h : ∀ e ∈ es, e.maxPadding = subTreeWidth e.numShares thr - 1 ∧ e.pfbIndex < n) : Placeable thr n cur es := by
  induction es generalizing cur with
  | nil => trivial
  | cons e es ih =>
    obtain ⟨hp, hi⟩ := h e List.mem_cons_self
    exact ⟨Nat.le_trans (padding_le cur e.numShares thr) (Nat.le_of_eq hp.symm), hi, ih _ fun x hx => h x (List.mem_cons_of_mem e hx)⟩

theorem endCursor_le {thr n cur : Nat} {es : List Element} (h : Placeable thr n cur es) :
    endCursor thr cur es ≤ cur + (es.map Element.maxShareOffset).sum := by
  induction es generalizing cur with
  | nil => exact Nat.le_refl cur
  | cons e es ih =>
    have h1 := ih h.2.2
    have h3 : nextShareIndex cur e.numShares thr - cur ≤ e.maxPadding := h.1
    simp only [endCursor, List.map_cons, List.sum_cons, Element.maxShareOffset]
    omega

end GoSquare
