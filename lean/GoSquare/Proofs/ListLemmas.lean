/-! Facts about core `List` operations that core does not state: windows (`drop`/`take`), ends of an
    append, `mapIdx`, `find?`, sums. Nothing of the development is mentioned. -/
namespace GoSquare

theorem drop_take_append {α} (L : List α) {s a b : Nat} (h1 : s ≤ a) (h2 : a ≤ b) :
    (L.drop s).take (a - s) ++ (L.drop a).take (b - a) = (L.drop s).take (b - s) := by
  obtain ⟨x, rfl⟩ := Nat.exists_eq_add_of_le h1
  obtain ⟨y, rfl⟩ := Nat.exists_eq_add_of_le h2
  rw [Nat.add_sub_cancel_left, Nat.add_sub_cancel_left, Nat.add_assoc, Nat.add_sub_cancel_left, List.take_add,
    List.drop_drop]

theorem window_window {α} (l : List α) (i n j m : Nat) (h : j + m ≤ n) :
    (((l.drop i).take n).drop j).take m = (l.drop (i + j)).take m := by
  rw [List.drop_take, List.drop_drop, List.take_take, Nat.min_eq_left (Nat.le_sub_of_add_le' h)]

theorem fit_of_window {α} {l s : List α} {i : Nat} (hs : 0 < s.length) (h : (l.drop i).take s.length = s) :
    i + s.length ≤ l.length := by
  have := List.length_take_le' s.length (l.drop i)
  rw [h, List.length_drop] at this
  omega

theorem mem_left_of_mem_head? {α} {l l' : List α} {a : α} (h : l ≠ []) (ha : a ∈ (l ++ l').head?) : a ∈ l := by
  cases l with
  | nil => contradiction
  | cons x l => exact List.mem_of_mem_head? ha

theorem mem_right_of_mem_getLast? {α} {l l' : List α} {a : α} (h : l' ≠ []) (ha : a ∈ (l ++ l').getLast?) : a ∈ l' := by
  rw [List.getLast?_append, List.getLast?_eq_some_getLast h] at ha
  cases ha
  exact List.getLast_mem h

theorem mapIdx_self {α} (l : List α) : l.mapIdx (fun _ v => v) = l :=
  List.ext_getElem? fun i => by rw [List.getElem?_mapIdx, Option.map_id']

theorem set_eq_mapIdx {α} (l : List α) (i : Nat) (a : α) :
    l.set i a = l.mapIdx fun k v => if i = k then a else v := by
  apply List.ext_getElem?
  intro k
  rw [List.getElem?_set, List.getElem?_mapIdx]
  by_cases h : i = k
  · subst h
    rw [if_pos rfl]
    by_cases hi : i < l.length
    · rw [if_pos hi, List.getElem?_eq_getElem hi, Option.map_some, if_pos rfl]
    · rw [if_neg hi, List.getElem?_eq_none_iff.mpr (Nat.le_of_not_lt hi)]; rfl
  · simp only [h, if_false, Option.map_id']

theorem map_mapIdx_const {α β γ} (g : β → γ) (h : α → γ) : ∀ (l : List α) (f : Nat → α → β),
    (∀ i a, g (f i a) = h a) → (l.mapIdx f).map g = l.map h
  | [], _, _ => rfl
  | a :: l, f, hf => by
    rw [List.mapIdx_cons, List.map_cons, List.map_cons, hf 0 a,
      map_mapIdx_const g h l (fun i => f (i + 1)) (fun i a => hf (i + 1) a)]

theorem find?_keys {α} (f g : α → Nat) {l : List α} {e : α}
    (hpw : l.Pairwise (fun a b => ¬ (f a = f b ∧ g a = g b))) (he : e ∈ l) :
    l.find? (fun x => f x == f e && g x == g e) = some e := by
  obtain ⟨as, bs, rfl⟩ := List.append_of_mem he
  refine List.find?_eq_some_iff_append.mpr ⟨by simp, as, bs, rfl, fun x hx => ?_⟩
  have := (List.pairwise_append.mp hpw).2.2 x hx e (List.mem_cons_self ..)
  simpa only [Bool.not_eq_true', Bool.and_eq_false_iff, beq_eq_false_iff_ne,
    ← Decidable.not_and_iff_not_or_not] using this

theorem sum_flatten : ∀ (L : List (List Nat)), L.flatten.sum = (L.map List.sum).sum
  | [] => rfl
  | l :: L => by rw [List.flatten_cons, List.sum_append, List.map_cons, List.sum_cons, sum_flatten L]

theorem sum_map_append {α} (f : α → Nat) (l : List α) (x : α) : ((l ++ [x]).map f).sum = (l.map f).sum + f x := by
  rw [List.map_append, List.sum_append, List.map_singleton, List.sum_singleton]

theorem sum_map_le_of_getElem? {α} (f g : α → Nat) (l : List α) : ∀ (m : List α), l.length = m.length →
    (∀ (i : Nat) a b, l[i]? = some a → m[i]? = some b → f a ≤ g b) → (l.map f).sum ≤ (m.map g).sum := by
  induction l with
  | nil => exact fun m h _ => by cases m with | nil => exact Nat.le_refl _ | cons _ _ => cases h
  | cons a l ih =>
    intro m h hp
    cases m with
    | nil => cases h
    | cons b m =>
      exact Nat.add_le_add (hp 0 a b rfl rfl) (ih m (Nat.succ.inj h) fun i x y hx hy => hp (i + 1) x y hx hy)

theorem dvd_sum {d : Nat} : ∀ {l : List Nat}, (∀ x ∈ l, d ∣ x) → d ∣ l.sum
  | [], _ => Nat.dvd_zero d
  | x :: xs, h => by
    exact Nat.dvd_add (h x List.mem_cons_self) (dvd_sum fun y hy => h y (List.mem_cons_of_mem x hy))

theorem take_sum_add_le (l : List Nat) (c : Nat) (hc : c < l.length) : (l.take c).sum + l[c] ≤ l.sum := by
  have := congrArg List.sum (List.take_append_drop (c + 1) l)
  rw [List.sum_append, List.take_succ_eq_append_getElem hc, List.sum_append] at this
  exact this ▸ Nat.le_add_right ..

end GoSquare
