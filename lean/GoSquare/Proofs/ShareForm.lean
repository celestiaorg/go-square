import GoSquare.Proofs.Bytes
import GoSquare.Spec.Format
/-! Every specified share is `fill (ns ++ [info] ++ body)`, that is `ns ++ info :: rest` with a
    29-byte namespace. What each accessor of share.go returns on a byte string of that shape is
    stated here once, in terms of `rest`. -/
namespace GoSquare
open Spec

theorem fill_of_length {pre : Bytes} (h : pre.length = 512) : fill pre = pre := by
  simp [fill, h, zeros]

theorem fill_length {pre : Bytes} (h : pre.length ≤ 512) : (fill pre).length = 512 := by
  simp [fill]; omega

theorem fill_share (ns : Bytes) (i : UInt8) (body : Bytes) (hns : ns.length = 29) :
    fill (ns ++ [i] ++ body) = ns ++ i :: (body ++ zeros (482 - body.length)) := by
  have e : 512 - (ns ++ [i] ++ body).length = 482 - body.length := by
    rw [List.length_append, List.length_append, hns]; exact Nat.sub_add_eq 512 30 _
  rw [fill, e]; simp

theorem infoByte_toNat (ver : Nat) (start : Bool) (h : ver ≤ 127) :
    (infoByte ver start).toNat = ver * 2 + (if start then 1 else 0) :=
  toUInt8_toNat_of_lt (by split <;> omega)

theorem isCompactShare_eq (s : Bytes) : Share.isCompactShare s = isCompactNs (Share.ns s) := rfl

structure ShareDecoded (s : Bytes) (ns : Bytes) (ver : Nat) (start : Bool) : Prop where
  ns : Share.ns s = ns
  version : Share.version s = ver
  start : Share.isSequenceStart s = start

section
variable {ns : Bytes} (hns : ns.length = 29)
include hns

theorem ns_of_cons (i : UInt8) (rest : Bytes) : Share.ns (ns ++ i :: rest) = ns := by
  simp [Share.ns, hns]

theorem info_of_cons (i : UInt8) (rest : Bytes) : Share.infoByte (ns ++ i :: rest) = i := by
  simp [Share.infoByte, hns]

theorem drop_of_cons (i : UInt8) (rest : Bytes) (n : Nat) : (ns ++ i :: rest).drop (30 + n) = rest.drop n := by
  rw [← List.drop_drop, show ns ++ i :: rest = (ns ++ [i]) ++ rest by simp, List.drop_left' (by simp [hns])]

variable (v : Nat) (st : Bool) (rest : Bytes) (hv : v ≤ 127)
include hv

theorem version_of_cons : Share.version (ns ++ infoByte v st :: rest) = v := by
  rw [Share.version, info_of_cons hns, infoByte_toNat v st hv, Nat.mul_comm, Nat.mul_add_div (by decide)]; cases st <;> rfl

theorem start_of_cons : Share.isSequenceStart (ns ++ infoByte v st :: rest) = st := by
  rw [Share.isSequenceStart, info_of_cons hns, infoByte_toNat v st hv, Nat.mul_comm, Nat.mul_add_mod]; cases st <;> rfl

theorem decoded_of_cons : ShareDecoded (ns ++ infoByte v st :: rest) ns v st :=
  ⟨ns_of_cons hns _ _, version_of_cons hns v st rest hv, start_of_cons hns v st rest hv⟩

theorem sequenceLen_of_cons :
    Share.sequenceLen (ns ++ infoByte v st :: rest) = if st then readBe32 rest else 0 := by
  rw [Share.sequenceLen, start_of_cons hns v st rest hv, drop_of_cons hns _ _ 0]; cases st <;> rfl

theorem rawData_of_cons : Share.rawData (ns ++ infoByte v st :: rest) =
    rest.drop ((if st then 4 else 0) + (if isCompactNs ns then 4 else 0) + (if st && v == 1 then 20 else 0)) := by
  rw [Share.rawData, Share.rawDataStartIndex, start_of_cons hns v st rest hv, version_of_cons hns v st rest hv,
    isCompactShare_eq, ns_of_cons hns, Nat.add_assoc, Nat.add_assoc, drop_of_cons hns, Nat.add_assoc]

theorem signer_of_cons : Share.signer (ns ++ infoByte v st :: rest) =
    if v ≠ 1 then none else if !st then none else some ((rest.drop 4).take 20) := by
  rw [Share.signer, start_of_cons hns v st rest hv, version_of_cons hns v st rest hv, drop_of_cons hns _ _ 4]

end

theorem fill_share_decoded {ns : Bytes} (hns : ns.length = 29) (v : Nat) (st : Bool) (body : Bytes) (hv : v ≤ 127) :
    ShareDecoded (fill (ns ++ [infoByte v st] ++ body)) ns v st := by
  rw [fill_share _ _ _ hns]; exact decoded_of_cons hns _ _ _ hv

theorem paddingShare_wf (ns : Bytes) (ver : Nat) (hns : ns.length = 29) :
    (paddingShare ns ver).length = 512 ∧ Share.ns (paddingShare ns ver) = ns :=
  ⟨fill_length (by simp [hns]), by rw [paddingShare, fill_share _ _ _ hns]; exact ns_of_cons hns _ _⟩

theorem paddingShare_start (ns : Bytes) (ver : Nat) (hns : ns.length = 29) (hv : ver ≤ 127) :
    Share.isSequenceStart (paddingShare ns ver) = true :=
  (fill_share_decoded hns ver true _ hv).start

theorem parseReserved_be32 (r : Nat) (h : r < 512) : parseReservedBytes (be32 r) = .ok r := by
  have : readBe32 (be32 r) = r := by simpa using readBe32_be32 r (by omega) []
  simp [parseReservedBytes, this]; omega

end GoSquare
