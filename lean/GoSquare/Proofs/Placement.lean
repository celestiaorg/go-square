import GoSquare.Proofs.ExportKept
/-! (C04) where every blob sits: the closed-form start indexes `placeIdx` are aligned and open
    disjoint ranges, and in `squareOf` each blob's share encoding sits verbatim at its index. -/
namespace GoSquare
open Spec

theorem placeIdx_spec (thr : Nat) (es : List Element) : ∀ (cur : Nat),
    (∀ w ∈ es.zip (placeIdx thr cur es), cur ≤ w.2 ∧ w.2 % subTreeWidth w.1.numShares thr = 0) ∧
    (es.zip (placeIdx thr cur es)).Pairwise (fun a b => a.2 + a.1.numShares ≤ b.2) := by
  induction es with
  | nil => exact fun _ => ⟨nofun, .nil⟩
  | cons e es ih =>
    intro cur
    obtain ⟨h1, h2⟩ := ih (nextShareIndex cur e.numShares thr + e.numShares)
    have hle := le_nextShareIndex cur e.numShares thr
    refine ⟨fun w hw => ?_, List.pairwise_cons.mpr ⟨fun w hw => (h1 w hw).1, h2⟩⟩
    rcases List.mem_cons.mp hw with rfl | hw
    · exact ⟨hle, nextShareIndex_aligned cur e.numShares thr⟩
    · exact ⟨Nat.le_trans (Nat.le_trans hle (Nat.le_add_right ..)) (h1 w hw).1, (h1 w hw).2⟩

theorem length_zip_placeIdx (thr cur : Nat) (es : List Element) : (es.zip (placeIdx thr cur es)).length = es.length := by
  rw [List.length_zip, placeIdx_length, Nat.min_self]

/-- (C04) blob ranges are pairwise disjoint, in write order -/
theorem placeIdx_ordered (thr : Nat) (es : List Element) (cur : Nat) (j : Nat) :
    ∀ (k : Nat) (hjk : j < k) (hk : k < es.length),
    (placeIdx thr cur es)[j]'(by rw [placeIdx_length]; omega) + (es[j]'(by omega)).numShares ≤
      (placeIdx thr cur es)[k]'(by rw [placeIdx_length]; exact hk) := by
  intro k hjk hk
  have := List.pairwise_iff_getElem.mp (placeIdx_spec thr es cur).2 j k
    (by rw [length_zip_placeIdx]; omega) (by rw [length_zip_placeIdx]; exact hk) hjk
  simpa only [List.getElem_zip] using this

/-- (C04) every start index is aligned to the blob's subtree width, for every threshold -/
theorem placeIdx_aligned' (thr : Nat) : ∀ (es : List Element) (cur : Nat) (k : Nat) (hk : k < es.length),
    (placeIdx thr cur es)[k]'(by rw [placeIdx_length]; exact hk) % subTreeWidth (es[k]).numShares thr = 0 := by
  intro es cur k hk
  have := ((placeIdx_spec thr es cur).1 _ (List.getElem_mem (by rw [length_zip_placeIdx]; exact hk))).2
  simpa only [List.getElem_zip] using this

/-- `_ht` and `_hn` are not needed: the model's `subTreeWidth` is positive for all arguments -/
theorem placeIdx_aligned (thr : Nat) (_ht : 1 ≤ thr) (es : List Element) (cur : Nat)
    (_hn : ∀ e ∈ es, 1 ≤ e.numShares ∧ e.numShares ≤ 2 ^ 52) (k : Nat) (hk : k < es.length) :
    (placeIdx thr cur es)[k]'(by rw [placeIdx_length]; exact hk) % subTreeWidth (es[k]).numShares thr = 0 :=
  placeIdx_aligned' thr es cur k hk

theorem endCursor_ge (thr : Nat) : ∀ (es : List Element) (cur : Nat), cur ≤ endCursor thr cur es
  | [], _ => Nat.le_refl _
  | e :: es, cur =>
    Nat.le_trans (Nat.le_trans (le_nextShareIndex cur e.numShares thr) (Nat.le_add_right ..)) (endCursor_ge thr es _)

theorem placeIdx_le_endCursor (thr : Nat) : ∀ (es : List Element) (cur : Nat),
    ∀ idx ∈ placeIdx thr cur es, idx ≤ endCursor thr cur es
  | [], _, _, h => nomatch h
  | e :: es, cur, idx, h => by
    rcases List.mem_cons.mp h with rfl | h
    · exact Nat.le_trans (Nat.le_add_right ..) (endCursor_ge thr es _)
    · exact placeIdx_le_endCursor thr es _ idx h

/-- the `match`: the index of the region's first share, `cur` if it begins with padding -/
theorem region_end_eq (thr : Nat) (es : List Element) (hok : ∀ e ∈ es, EOK e) : ∀ (cur : Nat) (prev : Option Blob),
    (match prev with | some _ => cur | none => firstIdx thr cur es) + (region thr cur prev es).length =
      endCursor thr cur es := by
  induction es with
  | nil => intro cur prev; cases prev <;> rfl
  | cons e es ih =>
    intro cur prev
    have ih := ih (fun x hx => hok x (List.mem_cons_of_mem _ hx))
      (nextShareIndex cur e.numShares thr + e.numShares) (some e.blob)
    have hns := (hok e (List.mem_cons_self ..)).2
    have hle := le_nextShareIndex cur e.numShares thr
    rw [region_cons, endCursor, ← ih]
    cases prev with
    | none => simp only [padAfter, firstIdx, List.length_append, List.length_nil]; omega
    | some p => simp only [padAfter, List.length_append, List.length_replicate]; omega

theorem region_end (thr cur : Nat) (es : List Element) (hok : ∀ e ∈ es, EOK e) :
    firstIdx thr cur es + (region thr cur none es).length = endCursor thr cur es :=
  region_end_eq thr es hok cur none

theorem region_split (thr : Nat) (es : List Element) (cur : Nat) (prev : Option Blob)
    (hok : ∀ e ∈ es, EOK e) (k : Nat) (hk : k < es.length) :
    ∃ A C, region thr cur prev es = A ++ sparseSeq (es[k]).blob ++ C ∧
      (match prev with | some _ => cur | none => firstIdx thr cur es) + A.length =
        (placeIdx thr cur es)[k]'(by rw [placeIdx_length]; exact hk) := by
  induction es generalizing cur prev k with
  | nil => exact absurd hk (Nat.not_lt_zero _)
  | cons e es ih =>
    have hle := le_nextShareIndex cur e.numShares thr
    rw [region_cons]
    cases k with
    | zero =>
      refine ⟨_, _, rfl, ?_⟩
      cases prev with
      | none => rfl
      | some p => simp only [padAfter, placeIdx, List.getElem_cons_zero, List.length_replicate]; omega
    | succ k =>
      have hns := (hok e (List.mem_cons_self ..)).2
      obtain ⟨A, C, hr, hA⟩ := ih (nextShareIndex cur e.numShares thr + e.numShares) (some e.blob)
        (fun x hx => hok x (List.mem_cons_of_mem _ hx)) k (Nat.lt_of_succ_lt_succ hk)
      refine ⟨padAfter prev (nextShareIndex cur e.numShares thr - cur) ++ sparseSeq e.blob ++ A, C,
        by rw [hr]; simp only [List.append_assoc, List.getElem_cons_succ], ?_⟩
      simp only [placeIdx, List.getElem_cons_succ, ← hA]
      cases prev with
      | none => simp only [padAfter, firstIdx, List.length_append, List.length_nil]; omega
      | some p => simp only [padAfter, List.length_append, List.length_replicate]; omega

/-- (C04) in the square, blob `k` (in write order) sits verbatim at its start index -/
theorem squareOf_blob_at (thr : Nat) (N : List Bytes) (B : List BlobTx) (ss : Nat)
    (hv : ∀ t ∈ B, ∀ bl ∈ t.blobs, bl.BlobValid)
    (h1 : (compactSeq txNamespace N).length +
        (compactSeq payForBlobNamespace ((patched thr N B).map (·.marshal))).length ≤
        firstIdx thr (startOf N B) (sortedElems thr B))
    (k : Nat) (hk : k < (sortedElems thr B).length) :
    ((squareOf thr N B ss).drop ((placeIdx thr (startOf N B) (sortedElems thr B))[k]'(by rw [placeIdx_length]; exact hk))).take
        ((sortedElems thr B)[k]).numShares = sparseSeq ((sortedElems thr B)[k]).blob := by
  have hok := eok_sortedElems thr B hv
  obtain ⟨A, C, hr, hA⟩ := region_split thr (sortedElems thr B) (startOf N B) none hok k hk
  rw [(hok _ (List.getElem_mem hk)).2, ← hA]
  simp only [squareOf, hr]
  rw [show ∀ (X Y Z T : List Bytes), X ++ Y ++ Z ++ (A ++ sparseSeq ((sortedElems thr B)[k]).blob ++ C) ++ T =
      (X ++ Y ++ Z ++ A) ++ (sparseSeq ((sortedElems thr B)[k]).blob ++ (C ++ T)) from
    fun X Y Z T => by simp only [List.append_assoc]]
  rw [List.drop_left' (by simp only [List.length_append, List.length_replicate]; omega), List.take_left]

end GoSquare
