import GoSquare.Proofs.Builder
import GoSquare.Properties.C15
/-! # C06 — worst-case capacity accounting; refusals; side selection

For every append history (`run` over ordinary and blob transactions, accepted and refused, any
sizes) the invariant is `Kept`. What needs the layout of the square (`Export` never errs, the occupied
shares are within the estimate) is in Proofs/ExportTotal.lean and Properties/C06.lean. -/
namespace GoSquare.C06

inductive Op where
  | tx (t : Bytes)
  | btx (t : BlobTx)

def step (b : Builder) : Op → Builder × Bool
  | .tx t => b.appendTx t
  | .btx t => b.appendBlobTx t

def run : List Op → Builder → List Bytes → List BlobTx → Builder × List Bytes × List BlobTx
  | [], b, n, bl => (b, n, bl)
  | .tx t :: ops, b, n, bl =>
    let r := b.appendTx t
    run ops r.1 (if r.2 then n ++ [t] else n) bl
  | .btx t :: ops, b, n, bl =>
    let r := b.appendBlobTx t
    run ops r.1 n (if r.2 then bl ++ [t] else bl)

/-- **C06 (estimate, every history).** `Kept` is invariant: the running estimate is the closed-form
    worst-case rule applied to exactly the accepted transactions, and is at most maximum squared. -/
theorem estimate_invariant : ∀ (ops : List Op) (b : Builder) (n : List Bytes) (bl : List BlobTx), Kept b n bl →
    Kept (run ops b n bl).1 (run ops b n bl).2.1 (run ops b n bl).2.2 ∧
    (run ops b n bl).1.thr = b.thr ∧ (run ops b n bl).1.maxSquareSize = b.maxSquareSize
  | [], b, n, bl, h => ⟨h, rfl, rfl⟩
  | .tx t :: ops, b, n, bl, h => by
    simpa [run] using estimate_invariant ops _ _ _ (h.appendTx t)
  | .btx t :: ops, b, n, bl, h => by
    simpa [run] using estimate_invariant ops _ _ _ (h.appendBlobTx t)

theorem estimate_le_max_squared (max thr : Nat) (b0 : Builder) (h0 : Builder.new max thr = .ok b0) (ops : List Op) :
    (run ops b0 [] []).1.currentSize ≤ ((max * max : Nat) : Int) ∧
    (run ops b0 [] []).1.currentSize =
      ((closedEstimate thr (run ops b0 [] []).2.1 (run ops b0 [] []).2.2 : Nat) : Int) := by
  obtain ⟨hk0, ht0, hm0⟩ := kept_new max thr b0 h0
  obtain ⟨hk, ht, hm⟩ := estimate_invariant ops b0 [] [] hk0
  have hfit := hk.fit
  rw [ht, ht0, hm, hm0] at hfit
  rw [hk.size, ht, ht0]
  exact ⟨Int.ofNat_le.mpr hfit, rfl⟩

/-- **C06 (refusal rule).** In a reachable state (`Kept`) an append is refused exactly when the
    closed-form estimate with the transaction would exceed maximum squared. -/
theorem refused_iff (b : Builder) (n : List Bytes) (bl : List BlobTx) (h : Kept b n bl) :
    (∀ t, (b.appendTx t).2 = false ↔ b.maxSquareSize * b.maxSquareSize < closedEstimate b.thr (n ++ [t]) bl) ∧
    (∀ t, (b.appendBlobTx t).2 = false ↔ b.maxSquareSize * b.maxSquareSize < closedEstimate b.thr n (bl ++ [t])) :=
  ⟨fun t => by rw [← Nat.not_le, ← (appendTx_spec b n bl t h).1, Bool.not_eq_true],
   fun t => by rw [← Nat.not_le, ← (appendBlobTx_spec b n bl t h).1, Bool.not_eq_true]⟩

/-- **C06 (a refused append leaves the builder observably unchanged)**, in ANY state: only the undo
    fields `last*` of the compact counter differ. -/
theorem refused_unchanged (b : Builder) :
    (∀ t, (b.appendTx t).2 = false →
      (b.appendTx t).1 = { b with txCounter := (b.appendTx t).1.txCounter } ∧
      (b.appendTx t).1.txCounter.shares = b.txCounter.shares ∧
      (b.appendTx t).1.txCounter.remainder = b.txCounter.remainder) ∧
    (∀ t, (b.appendBlobTx t).2 = false →
      (b.appendBlobTx t).1 = { b with pfbCounter := (b.appendBlobTx t).1.pfbCounter } ∧
      (b.appendBlobTx t).1.pfbCounter.shares = b.pfbCounter.shares ∧
      (b.appendBlobTx t).1.pfbCounter.remainder = b.pfbCounter.remainder) := by
  constructor
  · intro t
    rw [Builder.appendTx_eq]
    split
    · nofun
    · exact fun _ => ⟨rfl, rfl, rfl⟩
  · intro t
    rw [Builder.appendBlobTx_eq]
    split
    · nofun
    · exact fun _ => ⟨rfl, rfl, rfl⟩

/-- **C06 (side selection).** The side `Export` chooses for an estimate `e` is the least power of
    two whose area covers `e`; it never exceeds a power-of-two maximum with `e ≤ max²`. -/
theorem side_is_minimal_and_bounded (e max : Nat) (he1 : 1 ≤ e) (he : e ≤ 2 ^ 52)
    (hmax : Nat.isPowerOfTwo max) (hfit : e ≤ max * max) :
    Nat.isPowerOfTwo (blobMinSquareSize e) ∧ e ≤ blobMinSquareSize e * blobMinSquareSize e ∧
    (∀ p, Nat.isPowerOfTwo p → e ≤ p * p → blobMinSquareSize e ≤ p) ∧ blobMinSquareSize e ≤ max := by
  obtain ⟨a, b, c⟩ := C15.minSquare_least e he1 he
  exact ⟨a, b, c, c max hmax hfit⟩

/-- **C06 (padding never exceeds its reservation).** Aligning the cursor for a blob skips at most
    `subtree width − 1` shares, the `MaxPadding` reserved for it, whatever blobs the sort put before it. -/
theorem padding_within_reservation (cursor n thr : Nat) (hn : 1 ≤ n) (hn52 : n ≤ 2 ^ 52) (ht : 1 ≤ thr) :
    nextShareIndex cursor n thr - cursor ≤ subTreeWidth n thr - 1 :=
  -- `hn`, `hn52`, `ht` are part of the property's statement; the proof does not need them
  padding_le cursor n thr

end GoSquare.C06
