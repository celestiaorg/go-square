import GoSquare.Model.Nmt
/-! Structural half of C05: in the NMT root recursion (split at the largest power of two strictly
    below the length, as celestiaorg/nmt's `getSplitPoint`) every aligned power-of-two range of
    leaves is an inner node, and its value is the root of that range computed in isolation.
    Leaf, node and empty hashes are arbitrary. -/
namespace GoSquare.Nmt

theorem splitPoint_pow (k : Nat) : splitPoint (2 ^ (k + 1)) = 2 ^ k := by
  unfold splitPoint
  simp only [Nat.log2_two_pow, if_true]
  rw [Nat.pow_succ, Nat.mul_div_cancel _ (by decide)]

theorem pow_dvd_splitPoint {j n : Nat} (h : 2 ^ j < n) : 2 ^ j ∣ splitPoint n := by
  have hj : j ≤ n.log2 := (Nat.le_log2 (Nat.ne_of_gt (Nat.zero_lt_of_lt h))).mpr (Nat.le_of_lt h)
  unfold splitPoint
  simp only
  split
  · rename_i heq
    obtain ⟨d, hd⟩ := Nat.exists_eq_add_of_lt ((Nat.pow_lt_pow_iff_right (by decide)).mp (heq ▸ h))
    rw [hd, Nat.pow_succ, Nat.mul_div_cancel _ (by decide)]
    exact Nat.pow_dvd_pow 2 (Nat.le_add_right j d)
  · exact Nat.pow_dvd_pow 2 hj

theorem aligned_fit {s side p : Nat} (hs : s ∣ side) (hp : s ∣ p) (hlt : p < side) : p + s ≤ side := by
  obtain ⟨a, rfl⟩ := hp
  obtain ⟨b, rfl⟩ := hs
  have : a < b := Nat.lt_of_mul_lt_mul_left hlt
  calc s * a + s = s * (a + 1) := by rw [Nat.mul_add, Nat.mul_one]
    _ ≤ s * b := Nat.mul_le_mul_left _ this

variable {α D : Type} (leafH : α → D) (nodeH : D → D → D) (emptyH : D)

/-- `Inner l off size v`: computing `rootWith … l` visits the node over leaves `[off, off+size)`, of value `v` -/
inductive Inner : List α → Nat → Nat → D → Prop
  | top (l : List α) : Inner l 0 l.length (rootWith leafH nodeH emptyH l)
  | left {l : List α} {off size : Nat} {v : D} : 2 ≤ l.length →
      Inner (l.take (splitPoint l.length)) off size v → Inner l off size v
  | right {l : List α} {off size : Nat} {v : D} : 2 ≤ l.length →
      Inner (l.drop (splitPoint l.length)) off size v → Inner l (splitPoint l.length + off) size v

/-- either the block is the whole list, or `2^j` divides the split point, so the block lies on one side of it -/
theorem block_inner (j : Nat) : ∀ (n : Nat) (l : List α) (off : Nat), l.length = n → 2 ^ j ∣ off → off + 2 ^ j ≤ n →
    Inner leafH nodeH emptyH l off (2 ^ j) (rootWith leafH nodeH emptyH ((l.drop off).take (2 ^ j))) := by
  have hpos := Nat.two_pow_pos j
  have hsplit := @pow_dvd_splitPoint j
  generalize 2 ^ j = s at *
  intro n
  induction n using Nat.strongRecOn with
  | ind n ih =>
    intro l off hl hdvd hfit
    subst hl
    by_cases hw : l.length = s
    · obtain rfl : off = 0 := by omega
      rw [List.drop_zero, List.take_of_length_le (Nat.le_of_eq hw), ← hw]
      exact Inner.top l
    · have hsl : s < l.length := by omega
      have h2 : 2 ≤ l.length := Nat.lt_of_le_of_lt hpos hsl
      have hs := hsplit hsl
      obtain ⟨hs0, hsn⟩ := splitPoint_lt h2
      generalize hsp : splitPoint l.length = sp at *
      by_cases hlt : off < sp
      · have hfit' := aligned_fit hs hdvd hlt
        have := ih sp hsn (l.take sp) off (List.length_take_of_le (Nat.le_of_lt hsn)) hdvd hfit'
        rw [List.drop_take, List.take_take, Nat.min_eq_left (Nat.le_sub_of_add_le' hfit')] at this
        exact Inner.left h2 (hsp ▸ this)
      · obtain ⟨o, rfl⟩ := Nat.exists_eq_add_of_le (Nat.le_of_not_lt hlt)
        have := ih (l.length - sp) (Nat.sub_lt (Nat.zero_lt_of_lt hsl) hs0) (l.drop sp) o List.length_drop
          ((Nat.dvd_add_right hs).1 hdvd) (Nat.le_sub_of_add_le' (Nat.add_assoc .. ▸ hfit))
        rw [List.drop_drop] at this
        subst hsp
        exact Inner.right h2 this

/-- (C05) `block_inner`; neither `l.length = 2 ^ k` nor `j ≤ k` is needed -/
theorem aligned_inner (k : Nat) : ∀ (l : List α) (off j : Nat), l.length = 2 ^ k → j ≤ k →
    2 ^ j ∣ off → off + 2 ^ j ≤ l.length →
    Inner leafH nodeH emptyH l off (2 ^ j) (rootWith leafH nodeH emptyH ((l.drop off).take (2 ^ j))) :=
  fun l off j _ _ hdvd hfit => block_inner leafH nodeH emptyH j _ l off rfl hdvd hfit
end GoSquare.Nmt
