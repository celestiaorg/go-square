import GoSquare.Model.Heap
import GoSquare.Proofs.Bytes
import GoSquare.Properties.C17
/-! # C17 — the heap-level accumulation pattern computes the pure model's result

`Properties/C17.lean` proves the frame property of the readers' loop; this file its functional correctness: the
slice the loop returns holds the concatenation of the contents the views had in the original heap, which is what
the pure model takes the collected payload to be — for all view layouts and all growth decisions of the runtime. -/
namespace GoSquare.HeapRefine
open GoSquare.Heap

theorem end_le_of_inBounds {s : Slice} {h : Heap} (hs : s.InBounds h) : s.off + s.len ≤ h.length :=
  Nat.le_trans (Nat.add_le_add_left hs.1 _) hs.2

theorem store_length (h : Heap) (a : Nat) (xs : Bytes) (ha : a + xs.length ≤ h.length) :
    (store h a xs).length = h.length :=
  (C17.store_frame h a xs 0 (Nat.zero_le _) ha).2

theorem load_store_same (h : Heap) (a : Nat) (xs : Bytes) (c : Nat) (ha : a ≤ h.length) :
    load (store h a xs) ⟨a, xs.length, c⟩ = xs := by
  rw [load, store, List.append_assoc, List.drop_left' (List.length_take_of_le ha), List.take_left' rfl]

theorem load_take (h : Heap) (n : Nat) (s : Slice) (hs : s.off + s.len ≤ n) :
    load (h.take n) s = load h s := by
  rw [load, load, List.drop_take, List.take_take, Nat.min_eq_left (by omega)]

theorem load_congr_prefix (h h' : Heap) (n : Nat) (s : Slice) (hs : s.off + s.len ≤ n)
    (hp : h'.take n = h.take n) : load h' s = load h s := by
  rw [← load_take h' n s hs, ← load_take h n s hs, hp]

theorem load_store_above (h : Heap) (a : Nat) (xs : Bytes) (s : Slice)
    (hsa : s.off + s.len ≤ a) (ha : a ≤ h.length) :
    load (store h a xs) s = load h s := by
  refine load_congr_prefix h _ a s hsa ?_
  rw [store, List.append_assoc, List.take_left' (List.length_take_of_le ha)]

theorem load_store_disjoint (h : Heap) (a : Nat) (xs : Bytes) (s : Slice)
    (ha : a + xs.length ≤ h.length)
    (hdis : s.off + s.len ≤ a ∨ a + xs.length ≤ s.off) :
    load (store h a xs) s = load h s := by
  rcases hdis with hd | hd
  · exact load_store_above h a xs s hd (by omega)
  · -- dropping `s.off` bytes drops all of `h.take a ++ xs`, and what follows it is a tail of `h`
    have hl : (h.take a ++ xs).length = a + xs.length := by
      rw [List.length_append, List.length_take_of_le (by omega)]
    rw [load, load, store, show s.off = (a + xs.length) + (s.off - (a + xs.length)) by omega, ← List.drop_drop,
      List.drop_left' hl, List.drop_drop]

theorem load_append_left (h t : Heap) (s : Slice) (hs : s.off + s.len ≤ h.length) :
    load (h ++ t) s = load h s :=
  load_congr_prefix h _ h.length s hs (by rw [List.take_left' rfl, List.take_length])

theorem load_fresh (h ys zs : Heap) {l : Nat} (c : Nat) (hl : ys.length = l) :
    load (h ++ ys ++ zs) ⟨h.length, l, c⟩ = ys := by
  rw [load, List.append_assoc, List.drop_left' rfl, List.take_left' hl]

theorem load_add (h : Heap) (off l1 l2 c c1 c2 : Nat) :
    load h ⟨off, l1 + l2, c⟩ = load h ⟨off, l1, c1⟩ ++ load h ⟨off + l1, l2, c2⟩ := by
  simp only [load]
  rw [List.take_add, List.drop_drop]

/-- **C17 (one append, content).** For `s` in bounds, what `append(s, xs...)` returns reads `s`'s content, then `xs`. -/
theorem goAppend_result (h : Heap) (s : Slice) (xs : Bytes) (extra : Nat) (hs : s.InBounds h) :
    load (goAppend h s xs extra).1 (goAppend h s xs extra).2 = load h s ++ xs := by
  unfold goAppend
  by_cases hfit : s.len + xs.length ≤ s.cap
  · -- the old part lies below the store, the new part is what was stored
    have hb := end_le_of_inBounds hs
    rw [if_pos hfit]
    rw [load_add _ _ _ _ _ s.cap 0, load_store_same h _ xs 0 hb, load_store_above h _ xs s (Nat.le_refl _) hb]
  · rw [if_neg hfit]
    exact load_fresh h _ _ _ (by rw [List.length_append, C17.load_length h s hs])

theorem goAppend_load_below (h : Heap) (s : Slice) (xs : Bytes) (extra n : Nat)
    (hn : n ≤ h.length) (hs : C17.Above n h s) (v : Slice) (hv : v.off + v.len ≤ n) :
    load (goAppend h s xs extra).1 v = load h v :=
  load_congr_prefix h _ n v hv (C17.goAppend_frame h s xs extra n hn hs).1

/-- No reference heap is needed: the views lie below `n`, so they read the same in every heap the loop goes through. -/
theorem accumulate_result (views : List Slice) (h : Heap) (acc : Slice) (extras : List Nat) (n : Nat)
    (hn : n ≤ h.length) (ha : C17.Above n h acc) (hv : ∀ v ∈ views, v.off + v.len ≤ n) :
    load (accumulate h acc views extras).1 (accumulate h acc views extras).2
        = load h acc ++ (views.map (load h)).flatten ∧
      C17.Above n (accumulate h acc views extras).1 (accumulate h acc views extras).2 := by
  induction views generalizing h acc extras with
  | nil => exact ⟨(List.append_nil _).symm, ha⟩
  | cons v vs ih =>
    have hvs : ∀ w ∈ vs, w.off + w.len ≤ n := fun w hw => hv w (List.mem_cons_of_mem _ hw)
    obtain ⟨-, f2, f3⟩ := C17.goAppend_frame h acc (load h v) (extras.headD 0) n hn ha
    obtain ⟨r1, r2⟩ := ih _ _ extras.tail (Nat.le_trans hn f2) f3 hvs
    refine ⟨?_, r2⟩
    simp only [accumulate]
    rw [r1, goAppend_result h acc _ _ (C17.inBounds_of_above ha),
      List.map_congr_left (fun w hw => goAppend_load_below h acc _ _ n hn ha w (hvs w hw)),
      List.map_cons, List.flatten_cons, List.append_assoc]

/-- **C17 (functional correctness of the readers' pattern).** From nil, over views in bounds, the loop returns the
    concatenation of what the views read in the ORIGINAL heap. -/
theorem accumulate_from_nil_result (h : Heap) (views : List Slice) (extras : List Nat)
    (hv : ∀ v ∈ views, v.InBounds h) :
    let r := accumulate h nilSlice views extras
    load r.1 r.2 = (views.map (load h)).flatten ∧ r.2.InBounds r.1 ∧
    r.1.take h.length = h := by
  obtain ⟨r1, r2⟩ := accumulate_result views h nilSlice extras h.length (Nat.le_refl _) (Or.inl rfl)
    (fun v hm => end_le_of_inBounds (hv v hm))
  exact ⟨r1, C17.inBounds_of_above r2, C17.accumulate_from_nil_preserves_memory views h extras⟩

/-- **C17.** `congrArg f` of the first part of `accumulate_from_nil_result`; nothing about `f` is used. -/
theorem accumulate_from_nil_refines {α : Type _} (f : Bytes → α) (h : Heap) (views : List Slice)
    (extras : List Nat) (hv : ∀ v ∈ views, v.InBounds h) :
    f (load (accumulate h nilSlice views extras).1 (accumulate h nilSlice views extras).2)
      = f ((views.map (load h)).flatten) := by
  rw [(accumulate_from_nil_result h views extras hv).1]

/-- **C17 (no input was modified).** `v`: any slice in bounds of the original heap, the views in particular. -/
theorem accumulate_from_nil_views_unchanged (h : Heap) (views : List Slice) (extras : List Nat)
    (v : Slice) (hv : v.InBounds h) :
    load (accumulate h nilSlice views extras).1 v = load h v :=
  load_congr_prefix h _ h.length v (end_le_of_inBounds hv)
    (by rw [C17.accumulate_from_nil_preserves_memory, List.take_length])

theorem accumulate_from_nil_len (h : Heap) (views : List Slice) (extras : List Nat)
    (hv : ∀ v ∈ views, v.InBounds h) :
    (accumulate h nilSlice views extras).2.len = (views.map (·.len)).sum := by
  obtain ⟨r1, r2, _⟩ := accumulate_from_nil_result h views extras hv
  rw [← C17.load_length _ _ r2, r1, List.length_flatten, List.map_map]
  exact congrArg List.sum (List.map_congr_left fun v hvm => C17.load_length h v (hv v hvm))

/-- non-vacuity: overlapping views, spare capacity, an in-place append and a reallocation -/
example :
    let h : Heap := [1, 2, 3, 4, 5, 6]
    let views : List Slice := [⟨0, 2, 6⟩, ⟨1, 3, 5⟩, ⟨4, 2, 2⟩]
    let r := accumulate h nilSlice views [4, 0, 7]
    load r.1 r.2 = [1, 2, 2, 3, 4, 5, 6] ∧ (views.map (load h)).flatten = [1, 2, 2, 3, 4, 5, 6] ∧
    r.1.take 6 = h ∧ r.2 = ⟨12, 7, 14⟩ := by decide +kernel

end GoSquare.HeapRefine
