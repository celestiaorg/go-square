import GoSquare.Proofs.SquareParts
import GoSquare.Proofs.CompactParse
/-! C20 (second half): `ParseShares` tiles `squareOf` exactly. `parseShares` of a concatenation of
blocks (`IsSeq`: one sequence each) returns the blocks in order (`parseShares_blocks`); `Tiled` share
lists are such concatenations, and concatenate. The specified compact and blob sequences `Carries`
their payload, so each is a block, not padding, with that payload as `RawData`; a padding share is
a block of its own. Hence `tiled_squareOf`, `parseShares_squareOf`. -/
namespace GoSquare.Tiling
open Spec

/-- the sequence record `ParseShares` builds for a block: the namespace of its first share -/
def seqOf (blk : List Bytes) : Sequence := { ns := Share.ns (blk.headD []), shares := blk }

structure IsSeq (blk : List Bytes) : Prop where
  shape : ∃ s rest, blk = s :: rest ∧ Share.isSequenceStart s = true ∧
    ∀ c ∈ rest, Share.isSequenceStart c = false ∧ Share.ns c = Share.ns s
  valid : (seqOf blk).validSequenceLen = true

def Good (q : Sequence) : Prop := IsSeq q.shares ∧ seqOf q.shares = q

/-- Go: `if len(currentSequence.Shares) > 0 { sequences = append(sequences, currentSequence) }` -/
def push (seqs : List Sequence) (cur : Sequence) : List Sequence :=
  if cur.shares.length > 0 then seqs ++ [cur] else seqs

theorem loop_conts (more : List Bytes) (seqs : List Sequence) (rest : List Bytes) (cur : Sequence)
    (h : ∀ c ∈ rest, Share.isSequenceStart c = false ∧ Share.ns c = cur.ns) :
    parseSharesLoop (rest ++ more) seqs cur = parseSharesLoop more seqs { cur with shares := cur.shares ++ rest } := by
  induction rest generalizing cur with
  | nil => rw [List.append_nil]; rfl
  | cons c cs ih =>
    obtain ⟨h1, h2⟩ := h c (List.mem_cons_self ..)
    rw [List.cons_append, parseSharesLoop, if_neg (by rw [h1]; exact Bool.false_ne_true),
      if_neg (by rw [h2, bne_self_eq_false]; exact Bool.false_ne_true),
      ih { cur with shares := cur.shares ++ [c] } (fun x hx => h x (List.mem_cons_of_mem _ hx)), List.append_assoc]
    rfl

theorem loop_block (blk more : List Bytes) (seqs : List Sequence) (cur : Sequence) (h : IsSeq blk) :
    parseSharesLoop (blk ++ more) seqs cur = parseSharesLoop more (push seqs cur) (seqOf blk) := by
  obtain ⟨s, rest, rfl, hs, hc⟩ := h.shape
  rw [List.cons_append, parseSharesLoop, if_pos hs, loop_conts more _ rest _ hc]
  rfl

theorem loop_blocks (blocks : List (List Bytes)) (seqs : List Sequence) (cur : Sequence)
    (h : ∀ blk ∈ blocks, IsSeq blk) :
    ∃ p, parseSharesLoop blocks.flatten seqs cur = .ok p ∧ push p.1 p.2 = push seqs cur ++ blocks.map seqOf := by
  induction blocks generalizing seqs cur with
  | nil => exact ⟨(seqs, cur), rfl, (List.append_nil _).symm⟩
  | cons blk bs ih =>
    have hb := h blk (List.mem_cons_self ..)
    obtain ⟨p, hp, hq⟩ := ih (push seqs cur) (seqOf blk) (fun x hx => h x (List.mem_cons_of_mem _ hx))
    refine ⟨p, by rw [List.flatten_cons, loop_block blk _ seqs cur hb]; exact hp, ?_⟩
    -- a block is not empty, so its record is pushed
    obtain ⟨s, rest, rfl, _, _⟩ := hb.shape
    rw [hq, List.map_cons, List.append_cons]
    rfl

/-- **C20 (tiling).** `ParseShares` of a concatenation of blocks (`IsSeq`) returns exactly the blocks
    as sequences, in order, without the padding ones when `ignorePadding`. -/
theorem parseShares_blocks (blocks : List (List Bytes)) (ignorePadding : Bool) (h : ∀ blk ∈ blocks, IsSeq blk) :
    parseShares blocks.flatten ignorePadding =
      .ok ((blocks.map seqOf).filter (fun q => !(ignorePadding && q.isPadding))) := by
  obtain ⟨⟨seqs, cur⟩, hp, hq⟩ := loop_blocks blocks [] { ns := [], shares := [] } h
  have hvalid : ((blocks.map seqOf).any (fun q => !q.validSequenceLen)) = false := by
    rw [List.any_eq_false]
    intro q hqm
    obtain ⟨blk, hblk, rfl⟩ := List.mem_map.mp hqm
    rw [(h blk hblk).valid]; decide
  rw [parseShares, hp]
  simp only [res_bind_ok]
  rw [show (if cur.shares.length > 0 then seqs ++ [cur] else seqs) = blocks.map seqOf from hq.trans (List.nil_append _),
    hvalid]
  rfl

theorem parseShares_seqs (qs : List Sequence) (ignorePadding : Bool) (h : ∀ q ∈ qs, Good q) :
    parseShares (qs.map (·.shares)).flatten ignorePadding =
      .ok (qs.filter (fun q => !(ignorePadding && q.isPadding))) := by
  rw [parseShares_blocks _ _ (List.forall_mem_map.mpr fun q hq => (h q hq).1), List.map_map]
  exact congrArg (fun l => Except.ok (List.filter _ l))
    ((List.map_congr_left fun q hq => (h q hq).2).trans (List.map_id' qs))

/-- `sh` is a concatenation of `Good` records, `ds` being those of them that are not padding -/
def Tiled (sh : List Bytes) (ds : List Sequence) : Prop :=
  ∃ qs : List Sequence, (qs.map (·.shares)).flatten = sh ∧ (∀ q ∈ qs, Good q) ∧
    qs.filter (fun q => !q.isPadding) = ds

theorem Tiled.nil : Tiled [] [] := ⟨[], rfl, nofun, rfl⟩

theorem Tiled.append {a b : List Bytes} {da db : List Sequence} (h1 : Tiled a da) (h2 : Tiled b db) :
    Tiled (a ++ b) (da ++ db) := by
  obtain ⟨q1, e1, g1, f1⟩ := h1
  obtain ⟨q2, e2, g2, f2⟩ := h2
  exact ⟨q1 ++ q2, by rw [List.map_append, List.flatten_append, e1, e2], List.forall_mem_append.mpr ⟨g1, g2⟩,
    by rw [List.filter_append, f1, f2]⟩

theorem Tiled.parseShares {sh : List Bytes} {ds : List Sequence} (h : Tiled sh ds) :
    parseShares sh true = .ok ds ∧
    ∃ qs, parseShares sh false = .ok qs ∧ (qs.map (·.shares)).flatten = sh ∧ (∀ q ∈ qs, Good q) ∧
      qs.filter (fun q => !q.isPadding) = ds := by
  obtain ⟨qs, rfl, hg, rfl⟩ := h
  refine ⟨parseShares_seqs qs true hg, qs, ?_, rfl, hg, rfl⟩
  rw [parseShares_seqs qs false hg]
  exact congrArg Except.ok (List.filter_eq_self.mpr fun _ _ => rfl)

theorem good_of {ns s : Bytes} {rest : List Bytes} (hs : Share.isSequenceStart s = true)
    (hc : ∀ c ∈ rest, Share.isSequenceStart c = false) (hns : ∀ c ∈ s :: rest, Share.ns c = ns)
    (hv : Sequence.validSequenceLen { ns := ns, shares := s :: rest } = true) :
    Good { ns := ns, shares := s :: rest } := by
  have hs0 := hns s (List.mem_cons_self ..)
  have e : seqOf (s :: rest) = { ns := ns, shares := s :: rest } := by rw [seqOf, List.headD_cons, hs0]
  exact ⟨⟨⟨s, rest, rfl, hs, fun c h => ⟨hc c h, (hns c (List.mem_cons_of_mem _ h)).trans hs0.symm⟩⟩, e ▸ hv⟩, e⟩

/-- `Good` without `IsSeq` and `seqOf`, for the reader of the C20 theorems -/
theorem Good.spelled {q : Sequence} (h : Good q) :
    (∃ s rest, q.shares = s :: rest ∧ Share.isSequenceStart s = true ∧
      ∀ c ∈ rest, Share.isSequenceStart c = false) ∧
    (∀ s ∈ q.shares, Share.ns s = q.ns) ∧ q.validSequenceLen = true := by
  obtain ⟨⟨⟨s, rest, hs, h1, h2⟩, hval⟩, hq⟩ := h
  have hns : Share.ns s = q.ns := by rw [← hq, hs]; rfl
  refine ⟨⟨s, rest, hs, h1, fun c hc => (h2 c hc).1⟩, ?_, hval⟩
  rw [hs]
  exact List.forall_mem_cons.mpr ⟨hns, fun c hc => (h2 c hc).2.trans hns⟩

theorem good_padding (ns : Bytes) (ver : Nat) (hns : ns.length = 29) (hv : ver = 0 ∨ ver = 1) :
    Good { ns := ns, shares := [paddingShare ns ver] } ∧
    Sequence.isPadding { ns := ns, shares := [paddingShare ns ver] } = true := by
  have hp : Sequence.isPadding { ns := ns, shares := [paddingShare ns ver] } = true :=
    (paddingShare_isPad ns ver hns hv).2
  refine ⟨good_of (paddingShare_start ns ver hns (by omega)) nofun
    (List.forall_mem_singleton.mpr (paddingShare_wf ns ver hns).2) ?_, hp⟩
  rw [Sequence.validSequenceLen, hp]; rfl

theorem isSeq_padding (ns : Bytes) (ver : Nat) (hns : ns.length = 29) (hv : ver = 0 ∨ ver = 1) :
    IsSeq [paddingShare ns ver] := (good_padding ns ver hns hv).1.1

theorem tiled_padding (ns : Bytes) (ver : Nat) (hns : ns.length = 29) (hv : ver = 0 ∨ ver = 1) (k : Nat) :
    Tiled (List.replicate k (paddingShare ns ver)) [] := by
  obtain ⟨hg, hp⟩ := good_padding ns ver hns hv
  refine ⟨List.replicate k { ns := ns, shares := [paddingShare ns ver] }, ?_,
    fun q hq => List.eq_of_mem_replicate hq ▸ hg, ?_⟩
  · rw [List.map_replicate, List.flatten_replicate_singleton]
  · rw [List.filter_replicate, hp]; rfl

/-- `sh` is one non-padding sequence in namespace `ns` that declares `|d|`; its payloads are `d`, then filler -/
structure Carries (ns d : Bytes) (sh : List Bytes) : Prop where
  ns : ∀ c ∈ sh, Share.ns c = ns
  shape : ∃ s rest, sh = s :: rest ∧ Share.isSequenceStart s = true ∧ Share.isPadding s = false ∧
    Share.sequenceLen s = d.length ∧ sh.length = numberOfSharesNeeded s ∧
    ∀ c ∈ rest, Share.isSequenceStart c = false
  data : ∃ z, (sh.map Share.rawData).flatten = d ++ z

section
variable {ns d : Bytes} {sh : List Bytes} (h : Carries ns d sh)
include h

theorem Carries.good : Good { ns := ns, shares := sh } := by
  obtain ⟨s, rest, rfl, hs, _, _, hn, hc⟩ := h.shape
  refine good_of hs hc h.ns ?_
  show (Sequence.isPadding _ || (s :: rest).length == numberOfSharesNeeded s) = true
  rw [hn, beq_self_eq_true, Bool.or_true]

theorem Carries.not_padding : Sequence.isPadding { ns := ns, shares := sh } = false := by
  obtain ⟨s, rest, rfl, _, hp, _⟩ := h.shape
  cases rest with
  | nil => exact hp
  | cons => rfl

theorem Carries.tiled : Tiled sh [{ ns := ns, shares := sh }] :=
  ⟨[{ ns := ns, shares := sh }], List.append_nil sh, List.forall_mem_singleton.mpr h.good,
    List.filter_cons_of_pos (by rw [h.not_padding]; rfl)⟩

theorem Carries.rawData : Sequence.rawData { ns := ns, shares := sh } = .ok d := by
  obtain ⟨s, rest, rfl, _, _, hl, _⟩ := h.shape
  obtain ⟨z, hz⟩ := h.data
  have hn : ¬ (d.length > (d ++ z).length) := by rw [List.length_append]; omega
  simp only [Sequence.rawData, Sequence.sequenceLen, ← List.flatMap_eq_foldl, List.flatMap_def, hz, res_bind_ok, hl, hn]
  exact slice_prefix d z

end

def blobSeq (b : Blob) : Sequence := { ns := b.ns, shares := sparseSeq b }

theorem carries_sparse (b : Blob) (hb : b.BlobValid) : Carries b.ns b.data (sparseSeq b) := by
  obtain ⟨-, d, hlen, -, -⟩ := first_share_reads b hb.valid
  obtain ⟨k, hk⟩ := sparseSeq_rawData b hb.valid
  refine ⟨fun c hc => (sparseSeq_mem b hb.valid c hc).2.1,
    ⟨_, _, rfl, d.start, (isData_of_decoded hb d fun _ => hlen).2.1, hlen, ?_, ?_⟩, zeros k, hk⟩
  · rw [numberOfSharesNeeded, isCompactShare_eq, d.ns, hb.valid.notCompact, hlen, d.version]
    exact sparseSeq_length b hb.valid
  · intro c hc
    obtain ⟨ch, -, rfl⟩ := List.mem_map.mp hc
    exact (cont_share_reads b hb.valid ch).1.start

theorem isSeq_sparse (b : Blob) (hb : b.BlobValid) : IsSeq (sparseSeq b) := (carries_sparse b hb).good.1

def compactSeqRec (ns : Bytes) (units : List Bytes) : Sequence := { ns := ns, shares := compactSeq ns units }

theorem compactSeq_nil (ns : Bytes) : compactSeq ns [] = [] := rfl

theorem carries_compact (ns : Bytes) (hc : CompactNs ns) (units : List Bytes) (hne : units ≠ [])
    (hlt : (unitStream units).length < 4294967296) : Carries ns (unitStream units) (compactSeq ns units) := by
  have hpos := unitStream_pos units hne
  obtain ⟨m, hs⟩ := compactSeq_cons ns hne
  have a1 := specShare_ns ns hc (unitStream units) (unitStarts 0 units) 0
  have a2 := specShare_start ns hc (unitStream units) (unitStarts 0 units) 0
  have a3 := specShare_seqLen ns hc (unitStream units) (unitStarts 0 units) hlt
  refine ⟨fun c h => (compactSeq_shares ns hc units c h).2, ⟨_, _, hs, a2, ?_, a3, ?_, ?_⟩, ?_⟩
  · obtain ⟨n1, n2⟩ := hc.not_padding
    rw [Share.isPadding, Share.isNamespacePadding, a1, a2, a3, n1, n2, Bool.or_false, Bool.or_false]
    exact beq_false_of_ne (Nat.ne_of_gt hpos)
  · rw [numberOfSharesNeeded, isCompactShare_eq, a1, hc.compact, a3]
    exact compactSeq_length ns units
  · intro c hcm
    obtain ⟨j, _, rfl⟩ := List.mem_map.mp hcm
    rw [specShare_start ns hc]; rfl
  · -- the payloads are consecutive windows of the zero-padded stream
    refine ⟨zeros (compactOff (compactCount (unitStream units).length) - (unitStream units).length), ?_⟩
    rw [compactSeq_eq, List.map_map]
    simp only [Function.comp_def, specShare_rawData ns hc]
    rw [List.range_eq_range', payload_concat _ _ _ 0 (Nat.le_of_eq (Nat.zero_add _)), Nat.zero_add]
    exact List.take_of_length_le
      (Nat.le_of_eq (by rw [List.length_drop, padded_length _ _ (compactCount_bounds _ hpos).2]))

theorem isSeq_compact (ns : Bytes) (hc : CompactNs ns) (units : List Bytes) (hne : units ≠ [])
    (hlt : (unitStream units).length < 4294967296) : IsSeq (compactSeq ns units) :=
  (carries_compact ns hc units hne hlt).good.1

theorem tiled_compact (ns : Bytes) (hc : CompactNs ns) (units : List Bytes) (hlt : (unitStream units).length < 4294967296) :
    Tiled (compactSeq ns units) (if units = [] then [] else [compactSeqRec ns units]) := by
  split
  next h => rw [h]; exact Tiled.nil
  next h => exact (carries_compact ns hc units h hlt).tiled

theorem tiled_region (thr : Nat) (es : List Element) (cur : Nat) (prev : Option Blob)
    (hv : ∀ e ∈ es, e.blob.BlobValid) (hp : ∀ p, prev = some p → p.BlobValid) :
    Tiled (region thr cur prev es) (es.map (fun e => blobSeq e.blob)) := by
  induction es generalizing cur prev with
  | nil => exact Tiled.nil
  | cons e es ih =>
    have hev := hv e (List.mem_cons_self ..)
    have hpad : Tiled (padAfter prev (nextShareIndex cur e.numShares thr - cur)) [] := by
      cases prev with
      | none => exact Tiled.nil
      | some p => exact tiled_padding p.ns p.ver (hp p rfl).valid.nsLen (hp p rfl).valid.ver _
    exact (hpad.append (carries_sparse e.blob hev).tiled).append
      (ih _ (some e.blob) (fun x hx => hv x (List.mem_cons_of_mem _ hx)) (fun p hpe => Option.some.inj hpe ▸ hev))

/-- what is left of the square's sequences when padding is ignored -/
def dataSeqs (thr : Nat) (N : List Bytes) (B : List BlobTx) : List Sequence :=
  (if N = [] then [] else [compactSeqRec txNamespace N]) ++
  (if B = [] then [] else [compactSeqRec payForBlobNamespace ((patched thr N B).map (·.marshal))]) ++
  (sortedElems thr B).map (fun e => blobSeq e.blob)

theorem dataSeqs_nil (thr : Nat) : dataSeqs thr [] [] = [] := by
  simp [dataSeqs, sortedElems, allElements]

theorem tiled_squareOf (thr : Nat) (N : List Bytes) (B : List BlobTx) (ss : Nat)
    (hv : ∀ t ∈ B, ∀ bl ∈ t.blobs, bl.BlobValid)
    (hst1 : (unitStream N).length < 4294967296)
    (hst2 : (unitStream ((patched thr N B).map (·.marshal))).length < 4294967296) :
    Tiled (squareOf thr N B ss) (dataSeqs thr N B) := by
  have h := fun k1 k2 =>
    ((((tiled_compact _ compactNs_tx N hst1).append (tiled_compact _ compactNs_pfb _ hst2)).append
      (tiled_padding primaryReservedPaddingNamespace 0 (by decide) (Or.inl rfl) k1)).append
      (tiled_region thr _ (startOf N B) none (sortedElems_blob thr B hv) nofun)).append
      (tiled_padding tailPaddingNamespace 0 (by decide) (Or.inl rfl) k2)
  simp only [pfbUnits_eq_nil_iff, List.append_nil] at h
  exact h _ _

/-- **C20 (sequence parsing, padding ignored).** `ParseShares(squareOf …, true)` returns the transaction
    sequence, the pay-for-blob sequence and one sequence per blob in write order, for blob-valid
    blobs and unit streams below 2^32 bytes. -/
theorem parseShares_squareOf (thr : Nat) (N : List Bytes) (B : List BlobTx) (ss : Nat)
    (hv : ∀ t ∈ B, ∀ bl ∈ t.blobs, bl.BlobValid)
    (hst1 : (unitStream N).length < 4294967296)
    (hst2 : (unitStream ((patched thr N B).map (·.marshal))).length < 4294967296) :
    parseShares (squareOf thr N B ss) true = .ok
      ((if N = [] then [] else [{ ns := txNamespace, shares := compactSeq txNamespace N }]) ++
       (if B = [] then [] else
          [{ ns := payForBlobNamespace, shares := compactSeq payForBlobNamespace ((patched thr N B).map (·.marshal)) }]) ++
       (sortedElems thr B).map (fun e => { ns := e.blob.ns, shares := sparseSeq e.blob })) :=
  (tiled_squareOf thr N B ss hv hst1 hst2).parseShares.1

end GoSquare.Tiling
