import GoSquare.Proofs.SortOrder
import GoSquare.Proofs.CompactParse
import GoSquare.Proofs.Namespace
/-! C03: the exported square `squareOf` is well formed: `ss * ss` shares of 512 bytes each, in
    non-decreasing namespace order (transaction shares, pay-for-blob shares, reserved padding,
    blobs with their namespace padding, tail padding). -/
namespace GoSquare
open Spec

/-- holds of every namespace `ValidateForBlob` accepts (`C03.userNs_of_validateForBlob`) -/
def UserNs (ns : Bytes) : Prop :=
  cmpBytes primaryReservedPaddingNamespace ns < 0 ∧ cmpBytes ns tailPaddingNamespace < 0

abbrev NsLe (a b : Bytes) : Prop := cmpBytes a b ≤ 0

theorem nsLe_refl (a : Bytes) : NsLe a a := by
  have := (cmpBytes_eq_iff a a).mpr rfl
  omega

theorem nsLe_trans {a b c : Bytes} (h1 : NsLe a b) (h2 : NsLe b c) : NsLe a c :=
  cmpBytes_le_trans a b c h1 h2

/-- the shape in which sortedness of a concatenation follows from that of the parts (`Between.append`) -/
def Between (lo hi : Bytes) (l : List Bytes) : Prop :=
  NsLe lo hi ∧ l.Pairwise NsLe ∧ ∀ a ∈ l, NsLe lo a ∧ NsLe a hi

theorem Between.nil {lo hi : Bytes} (h : NsLe lo hi) : Between lo hi [] :=
  ⟨h, List.Pairwise.nil, fun _ ha => nomatch ha⟩

theorem Between.of_ns {l : List Bytes} (x : Bytes) (h : ∀ s ∈ l, Share.ns s = x) : Between x x (l.map Share.ns) := by
  have h' : ∀ a ∈ l.map Share.ns, a = x := fun a ha => by
    obtain ⟨s, hs, rfl⟩ := List.mem_map.mp ha
    exact h s hs
  exact ⟨nsLe_refl x, List.pairwise_of_forall_mem_list (fun a ha b hb => by rw [h' a ha, h' b hb]; exact nsLe_refl x),
    fun a ha => by rw [h' a ha]; exact ⟨nsLe_refl x, nsLe_refl x⟩⟩

theorem Between.append {a b c : Bytes} {l1 l2 : List Bytes} (h1 : Between a b l1) (h2 : Between b c l2) :
    Between a c (l1 ++ l2) := by
  refine ⟨nsLe_trans h1.1 h2.1, List.pairwise_append.mpr ⟨h1.2.1, h2.2.1, ?_⟩, ?_⟩
  · intro x hx y hy
    exact nsLe_trans (h1.2.2 x hx).2 (h2.2.2 y hy).1
  · intro x hx
    rcases List.mem_append.mp hx with hx | hx
    · exact ⟨(h1.2.2 x hx).1, nsLe_trans (h1.2.2 x hx).2 h2.1⟩
    · exact ⟨nsLe_trans h1.1 (h2.2.2 x hx).1, (h2.2.2 x hx).2⟩

theorem Between.mono {a a' b b' : Bytes} {l : List Bytes} (h : Between a b l) (ha : NsLe a' a) (hb : NsLe b b') :
    Between a' b' l :=
  ⟨nsLe_trans ha (nsLe_trans h.1 hb), h.2.1, fun x hx => ⟨nsLe_trans ha (h.2.2 x hx).1, nsLe_trans (h.2.2 x hx).2 hb⟩⟩

theorem between_padding (ns : Bytes) (ver k : Nat) (hns : ns.length = 29) :
    Between ns ns ((List.replicate k (paddingShare ns ver)).map Share.ns) :=
  .of_ns ns fun s hs => by rw [(List.mem_replicate.mp hs).2]; exact (paddingShare_wf ns ver hns).2

theorem between_compactSeq (ns : Bytes) (hc : CompactNs ns) (units : List Bytes) :
    Between ns ns ((compactSeq ns units).map Share.ns) :=
  .of_ns ns fun s hs => (compactSeq_shares ns hc units s hs).2

theorem region_shares_512 (thr : Nat) : ∀ (es : List Element) (cur : Nat) (prev : Option Blob),
    (∀ e ∈ es, e.blob.Valid) → (∀ p, prev = some p → p.ns.length = 29) →
    ∀ s ∈ region thr cur prev es, s.length = 512
  | [], _, _, _, _, s, hs => nomatch hs
  | e :: es, cur, prev, hv, hp, s, hs => by
    have hev : e.blob.Valid := hv e (List.mem_cons_self ..)
    rcases List.mem_append.mp hs with hs | hs
    · rcases List.mem_append.mp hs with hs | hs
      · cases prev with
        | none => nomatch hs
        | some p =>
          rw [(List.mem_replicate.mp hs).2]
          exact (paddingShare_wf p.ns p.ver (hp p rfl)).1
      · exact (sparseSeq_mem e.blob hev s hs).1
    · exact region_shares_512 thr es _ (some e.blob) (fun x hx => hv x (List.mem_cons_of_mem _ hx))
        (fun p hpe => by cases hpe; exact hev.nsLen) s hs

/-- padding before the first blob carries the namespace of `prev`: hence `p.ns = lo` -/
theorem region_between (thr : Nat) (hi : Bytes) : ∀ (es : List Element) (cur : Nat) (prev : Option Blob) (lo : Bytes),
    (∀ e ∈ es, e.blob.Valid) → Between lo hi (es.map (·.blob.ns)) →
    (∀ p, prev = some p → p.ns.length = 29 ∧ p.ns = lo) →
    Between lo hi ((region thr cur prev es).map Share.ns)
  | [], _, _, _, _, h, _ => Between.nil h.1
  | e :: es, cur, prev, lo, hv, h, hp => by
    have hev : e.blob.Valid := hv e (List.mem_cons_self ..)
    obtain ⟨hlo, hehi⟩ := h.2.2 e.blob.ns (List.mem_cons_self ..)
    have hsort := List.pairwise_cons.mp h.2.1
    have ih := region_between thr hi es (nextShareIndex cur e.numShares thr + e.numShares) (some e.blob) e.blob.ns
      (fun x hx => hv x (List.mem_cons_of_mem _ hx))
      ⟨hehi, hsort.2, fun a ha => ⟨hsort.1 a ha, (h.2.2 a (List.mem_cons_of_mem _ ha)).2⟩⟩
      (fun p hpe => by cases hpe; exact ⟨hev.nsLen, rfl⟩)
    have hblob : Between e.blob.ns e.blob.ns ((sparseSeq e.blob).map Share.ns) :=
      .of_ns _ fun s hs => (sparseSeq_mem e.blob hev s hs).2.1
    rw [region_cons, List.map_append, List.map_append]
    refine Between.append (Between.append ?_ hblob) ih
    cases prev with
    | none => exact Between.nil hlo
    | some p =>
      obtain ⟨h29, rfl⟩ := hp p rfl
      exact (between_padding p.ns p.ver _ h29).mono (nsLe_refl _) hlo

theorem sortedElems_ns_sorted (thr : Nat) (B : List BlobTx) :
    ((sortedElems thr B).map (·.blob.ns)).Pairwise NsLe :=
  List.pairwise_map.mpr (sortedElems_sorted thr B)

theorem squareOf_shares_512 (thr : Nat) (N : List Bytes) (B : List BlobTx) (ss : Nat)
    (hv : ∀ t ∈ B, ∀ bl ∈ t.blobs, bl.BlobValid) :
    ∀ s ∈ squareOf thr N B ss, s.length = 512 := by
  intro s hs
  have hves := sortedElems_blob thr B (fun t ht bl hbl => (hv t ht bl hbl).valid)
  simp only [squareOf, List.mem_append, List.mem_replicate] at hs
  rcases hs with (((hs | hs) | hs) | hs) | hs
  · exact (compactSeq_shares _ compactNs_tx _ s hs).1
  · exact (compactSeq_shares _ compactNs_pfb _ s hs).1
  · rw [hs.2]; exact (paddingShare_wf _ 0 (by decide)).1
  · exact region_shares_512 thr _ _ none hves (fun p h => nomatch h) s hs
  · rw [hs.2]; exact (paddingShare_wf _ 0 (by decide)).1

theorem restOf_between (thr : Nat) (N : List Bytes) (B : List BlobTx) (ss : Nat)
    (hv : ∀ t ∈ B, ∀ bl ∈ t.blobs, bl.BlobValid) (hu : ∀ t ∈ B, ∀ bl ∈ t.blobs, UserNs bl.ns) :
    Between primaryReservedPaddingNamespace tailPaddingNamespace ((restOf thr N B ss).map Share.ns) := by
  have hes := sortedElems_blob (P := fun bl => bl.Valid ∧ UserNs bl.ns) thr B
    (fun t ht bl hbl => ⟨(hv t ht bl hbl).valid, hu t ht bl hbl⟩)
  have hreg := region_between thr tailPaddingNamespace (sortedElems thr B) (startOf N B) none
    primaryReservedPaddingNamespace (fun e he => (hes e he).1)
    ⟨by decide, sortedElems_ns_sorted thr B, fun a ha => by
      obtain ⟨e, he, rfl⟩ := List.mem_map.mp ha
      exact ⟨Int.le_of_lt (hes e he).2.1, Int.le_of_lt (hes e he).2.2⟩⟩
    (fun p h => nomatch h)
  simp only [restOf, List.map_append]
  exact ((between_padding _ 0 _ (by decide)).append hreg).append (between_padding _ 0 _ (by decide))

theorem restOf_above (thr : Nat) (N : List Bytes) (B : List BlobTx) (ss : Nat)
    (hv : ∀ t ∈ B, ∀ bl ∈ t.blobs, bl.BlobValid) (hu : ∀ t ∈ B, ∀ bl ∈ t.blobs, UserNs bl.ns) :
    ∀ s ∈ restOf thr N B ss, cmpBytes (Share.ns s) payForBlobNamespace = 1 := by
  intro s hs
  have hlo := ((restOf_between thr N B ss hv hu).2.2 _ (List.mem_map_of_mem hs)).1
  have hpr : payForBlobNamespace < primaryReservedPaddingNamespace := by decide
  exact (cmpBytes_gt_iff _ _).mpr (Std.lt_of_lt_of_le hpr ((cmpBytes_le_iff _ _).mp hlo))

theorem squareOf_ns_sorted (thr : Nat) (N : List Bytes) (B : List BlobTx) (ss : Nat)
    (hv : ∀ t ∈ B, ∀ bl ∈ t.blobs, bl.BlobValid) (hu : ∀ t ∈ B, ∀ bl ∈ t.blobs, UserNs bl.ns) :
    ((squareOf thr N B ss).map Share.ns).Pairwise (fun a b => cmpBytes a b ≤ 0) := by
  -- tx ≤ pfb ≤ reserved padding
  rw [squareOf_eq_parts, List.map_append, List.map_append]
  exact ((((between_compactSeq _ compactNs_tx N).mono (nsLe_refl _) (by decide)).append
    ((between_compactSeq _ compactNs_pfb _).mono (nsLe_refl _) (by decide))).append
    (restOf_between thr N B ss hv hu)).2.1

/-- `h1`, `h2`: the two inequalities `Export` checks -/
theorem squareOf_length (thr : Nat) (N : List Bytes) (B : List BlobTx) (ss : Nat)
    (h1 : (compactSeq txNamespace N).length +
        (compactSeq payForBlobNamespace ((patched thr N B).map (·.marshal))).length ≤
        firstIdx thr (startOf N B) (sortedElems thr B))
    (h2 : firstIdx thr (startOf N B) (sortedElems thr B) +
        (region thr (startOf N B) none (sortedElems thr B)).length ≤ ss * ss) :
    (squareOf thr N B ss).length = ss * ss := by
  simp only [squareOf, List.length_append, List.length_replicate]
  omega

end GoSquare
