import GoSquare.Proofs.SortOrder
/-! What `Export` records in the wrapped pay-for-blob transactions. In closed form (`patchAll_eq`): every
    position of every wrapper ends up holding the start index of the last element written with its key
    (`pfbIndex`, `blobIndex`), nothing else of a wrapper changes. The keys of the kept blobs are pairwise
    distinct and cover every position, so wrapper `p` records at `j` the start index of blob `j` of kept
    blob transaction `p` (`patched_records`, C04), whatever it held before. -/
namespace GoSquare

abbrev KeyNe (a b : Element) : Prop := ¬ (a.pfbIndex = b.pfbIndex ∧ a.blobIndex = b.blobIndex)

/-- (C04) the keys of all elements are pairwise distinct and in range -/
theorem allElements_keys (thr : Nat) (B : List BlobTx) :
    (allElements thr B).Pairwise (fun a b => ¬ (a.pfbIndex = b.pfbIndex ∧ a.blobIndex = b.blobIndex)) ∧
    ∀ e ∈ allElements thr B, ∃ t, B[e.pfbIndex]? = some t ∧ ∃ bl, t.blobs[e.blobIndex]? = some bl ∧
      e = newElement bl e.pfbIndex e.blobIndex thr := by
  refine ⟨(allElements_lex thr B).imp fun h hc => by unfold elemLex at h; omega, fun e he => ?_⟩
  obtain ⟨p, j, t, bl, hp, hj, rfl⟩ := (mem_allElements_iff thr B e).mp he
  exact ⟨t, hp, bl, hj, rfl⟩

theorem allElements_complete (thr : Nat) (B : List BlobTx) (p j : Nat) (t : BlobTx) (bl : Blob)
    (hp : B[p]? = some t) (hj : t.blobs[j]? = some bl) : newElement bl p j thr ∈ allElements thr B :=
  (mem_allElements_iff thr B _).mpr ⟨p, j, t, bl, hp, hj, rfl⟩

theorem sortedElems_keys (thr : Nat) (B : List BlobTx) : (sortedElems thr B).Pairwise KeyNe :=
  (List.Perm.pairwise_iff (fun {x y} (h : KeyNe x y) hc => h ⟨hc.1.symm, hc.2.symm⟩) (List.mergeSort_perm _ _)).mpr
    (allElements_keys thr B).1

/-- what position `j` of wrapper `p`, having held `v`, holds after the writes `ws` (element, start index) -/
def recordedAt (p j : Nat) (ws : List (Element × Nat)) (v : Nat) : Nat :=
  ws.foldl (fun v w => if w.1.pfbIndex = p ∧ w.1.blobIndex = j then u32 w.2 else v) v

def recordIn (ws : List (Element × Nat)) (p : Nat) (iw : Proto.IndexWrapper) : Proto.IndexWrapper :=
  { iw with shareIndexes := iw.shareIndexes.mapIdx fun j v => recordedAt p j ws v }

theorem recordIn_nil : recordIn [] = fun _ iw => iw :=
  funext fun p => funext fun iw => by simp only [recordIn, recordedAt, List.foldl_nil, mapIdx_self]

theorem recordIn_cons (w : Element × Nat) (ws : List (Element × Nat)) :
    recordIn (w :: ws) = fun p => recordIn ws p ∘ recordIn [w] p :=
  funext fun p => funext fun iw => by
    simp only [recordIn, recordedAt, Function.comp_def, List.mapIdx_mapIdx, List.foldl_cons, List.foldl_nil]

theorem patchOne_eq (P : List Proto.IndexWrapper) (e : Element) (idx : Nat) :
    patchOne P e idx = P.mapIdx (recordIn [(e, idx)]) := by
  apply List.ext_getElem?
  intro p
  rw [patchOne, List.getElem?_modify, List.getElem?_mapIdx]
  refine congrArg (Option.map · P[p]?) (funext fun iw => ?_)
  by_cases hp : e.pfbIndex = p
  · simp only [hp, if_true, recordIn, recordedAt, List.foldl_cons, List.foldl_nil, true_and, set_eq_mapIdx]
  · simp only [hp, if_false, recordIn, recordedAt, List.foldl_cons, List.foldl_nil, false_and, mapIdx_self]

theorem patchAll_eq (thr : Nat) : ∀ (es : List Element) (cur : Nat) (P : List Proto.IndexWrapper),
    patchAll thr cur es P = P.mapIdx (recordIn (es.zip (placeIdx thr cur es)))
  | [], _, P => by rw [patchAll, List.zip_nil_left, recordIn_nil, mapIdx_self]
  | e :: es, cur, P => by
    rw [patchAll, placeIdx, List.zip_cons_cons, recordIn_cons, patchAll_eq thr es, patchOne_eq, List.mapIdx_mapIdx]

theorem map_fst_zip_placeIdx (thr cur : Nat) (es : List Element) : (es.zip (placeIdx thr cur es)).map (·.1) = es :=
  List.map_fst_zip (Nat.le_of_eq (placeIdx_length thr es cur).symm)

theorem recordedAt_of_not_mem {p j : Nat} : ∀ {ws : List (Element × Nat)} (v : Nat),
    (∀ w ∈ ws, ¬ (w.1.pfbIndex = p ∧ w.1.blobIndex = j)) → recordedAt p j ws v = v
  | [], _, _ => rfl
  | w :: ws, v, h => by
    rw [recordedAt, List.foldl_cons, if_neg (h w (List.mem_cons_self ..))]
    exact recordedAt_of_not_mem v fun x hx => h x (List.mem_cons_of_mem _ hx)

theorem recordedAt_of_mem {ws : List (Element × Nat)} (hpw : (ws.map (·.1)).Pairwise KeyNe)
    {w : Element × Nat} (hw : w ∈ ws) (v : Nat) : recordedAt w.1.pfbIndex w.1.blobIndex ws v = u32 w.2 := by
  obtain ⟨A, C, rfl⟩ := List.append_of_mem hw
  rw [recordedAt, List.foldl_append, List.foldl_cons, if_pos ⟨rfl, rfl⟩]
  exact recordedAt_of_not_mem _ fun x hx hc =>
    (List.pairwise_cons.mp (List.pairwise_append.mp (List.pairwise_map.mp hpw)).2.1).1 x hx ⟨hc.1.symm, hc.2.symm⟩

theorem recordedAt_congr {p j : Nat} {ws : List (Element × Nat)}
    (h : ∃ e ∈ ws.map (·.1), e.pfbIndex = p ∧ e.blobIndex = j) (v v' : Nat) :
    recordedAt p j ws v = recordedAt p j ws v' := by
  obtain ⟨_, he, hk⟩ := h
  obtain ⟨w, hw, rfl⟩ := List.mem_map.mp he
  obtain ⟨A, C, rfl⟩ := List.append_of_mem hw
  simp only [recordedAt, List.foldl_append, List.foldl_cons, if_pos hk]

theorem recordedAt_mem (p j : Nat) : ∀ (ws : List (Element × Nat)) (v : Nat),
    recordedAt p j ws v = v ∨ ∃ w ∈ ws, recordedAt p j ws v = u32 w.2
  | [], _ => Or.inl rfl
  | w :: ws, v => by
    rw [recordedAt, List.foldl_cons]
    rcases recordedAt_mem p j ws (if w.1.pfbIndex = p ∧ w.1.blobIndex = j then u32 w.2 else v) with h | ⟨x, hx, h⟩
    · rw [recordedAt] at h
      rw [h]
      split
      · exact Or.inr ⟨w, List.mem_cons_self .., rfl⟩
      · exact Or.inl rfl
    · exact Or.inr ⟨x, List.mem_cons_of_mem _ hx, h⟩

theorem mem_patchAll {thr cur : Nat} {es : List Element} {P : List Proto.IndexWrapper} {iw' : Proto.IndexWrapper}
    (hiw : iw' ∈ patchAll thr cur es P) {v : Nat} (hv : v ∈ iw'.shareIndexes) :
    (∃ iw ∈ P, v ∈ iw.shareIndexes) ∨ ∃ idx ∈ placeIdx thr cur es, v = u32 idx := by
  rw [patchAll_eq, List.mem_mapIdx] at hiw
  obtain ⟨p, hp, rfl⟩ := hiw
  obtain ⟨j, hj, rfl⟩ := List.mem_mapIdx.mp hv
  rcases recordedAt_mem p j (es.zip (placeIdx thr cur es)) P[p].shareIndexes[j] with h | ⟨w, hw, h⟩
  · exact Or.inl ⟨P[p], List.getElem_mem hp, h ▸ List.getElem_mem hj⟩
  · exact Or.inr ⟨w.2, (List.of_mem_zip hw).2, h⟩

theorem worstWrappers_getElem? (B : List BlobTx) (p : Nat) :
    (worstWrappers B)[p]? = (B[p]?).map (fun t => newIndexWrapper t.tx (worstCaseShareIndexes t.blobs.length)) := by
  unfold worstWrappers
  rw [List.getElem?_map]

theorem worstWrappers_covered (thr : Nat) (B : List BlobTx) {p : Nat} {iw : Proto.IndexWrapper}
    (hp : (worstWrappers B)[p]? = some iw) {j : Nat} (hj : j < iw.shareIndexes.length) :
    ∃ e ∈ sortedElems thr B, e.pfbIndex = p ∧ e.blobIndex = j := by
  rw [worstWrappers_getElem?] at hp
  obtain ⟨t, hB, rfl⟩ := Option.map_eq_some_iff.mp hp
  have hj' : j < t.blobs.length := by simpa [newIndexWrapper, worstCaseShareIndexes] using hj
  exact ⟨newElement t.blobs[j] p j thr,
    List.mem_mergeSort.mpr (allElements_complete thr B p j t _ hB (List.getElem?_eq_getElem hj')), rfl, rfl⟩

theorem patched_length (thr : Nat) (N : List Bytes) (B : List BlobTx) : (patched thr N B).length = B.length := by
  rw [patched, patchAll_length, worstWrappers, List.length_map]

theorem patched_getElem?_eq (thr : Nat) (N : List Bytes) (B : List BlobTx) (p : Nat) :
    (patched thr N B)[p]? = (B[p]?).map fun t =>
      recordIn ((sortedElems thr B).zip (placeIdx thr (startOf N B) (sortedElems thr B))) p
        (newIndexWrapper t.tx (worstCaseShareIndexes t.blobs.length)) := by
  rw [patched, patchAll_eq, List.getElem?_mapIdx, worstWrappers_getElem?, Option.map_map]
  rfl

theorem patched_getElem? (thr : Nat) (N : List Bytes) (B : List BlobTx) (p : Nat) (t : BlobTx) (hp : B[p]? = some t) :
    ∃ iw, (patched thr N B)[p]? = some iw ∧ iw.tx = t.tx ∧ iw.typeId = indexWrapperTypeId ∧
      iw.shareIndexes.length = t.blobs.length :=
  ⟨_, by rw [patched_getElem?_eq, hp]; rfl, rfl, rfl,
    by simp only [recordIn, List.length_mapIdx, newIndexWrapper, worstCaseShareIndexes, List.length_replicate]⟩

theorem patched_typeId (thr : Nat) (N : List Bytes) (B : List BlobTx) :
    ∀ iw ∈ patched thr N B, iw.typeId = indexWrapperTypeId := by
  intro iw hiw
  rw [patched, patchAll_eq, List.mem_mapIdx] at hiw
  obtain ⟨p, hp, rfl⟩ := hiw
  exact congrArg Proto.IndexWrapper.typeId (List.getElem_map (l := B) _)

/-- (C04) after `Export` the wrapper of kept blob transaction `e.pfbIndex` records at position
    `e.blobIndex` the start index of element `e` -/
theorem patched_records (thr : Nat) (N : List Bytes) (B : List BlobTx) (k : Nat) (e : Element) (idx : Nat)
    (he : (sortedElems thr B)[k]? = some e) (hi : (placeIdx thr (startOf N B) (sortedElems thr B))[k]? = some idx) :
    ∃ iw t, (patched thr N B)[e.pfbIndex]? = some iw ∧ B[e.pfbIndex]? = some t ∧ iw.tx = t.tx ∧
      iw.typeId = indexWrapperTypeId ∧ iw.shareIndexes.length = t.blobs.length ∧
      iw.shareIndexes[e.blobIndex]? = some (u32 idx) := by
  obtain ⟨t, ht, bl, hbl, _⟩ := (allElements_keys thr B).2 e (List.mem_mergeSort.mp (List.mem_of_getElem? he))
  obtain ⟨iw, g1, g2, g3, g4⟩ := patched_getElem? thr N B _ t ht
  refine ⟨iw, t, g1, ht, g2, g3, g4, ?_⟩
  rw [patched_getElem?_eq, ht, Option.map_some] at g1
  obtain rfl := Option.some.inj g1
  -- the keys of the writes are distinct: position `e.blobIndex` keeps the write of `e`
  rw [recordIn, List.getElem?_mapIdx, worstCaseShareIndexes, newIndexWrapper,
    List.getElem?_replicate_of_lt (List.getElem?_eq_some_iff.mp hbl).1, Option.map_some,
    recordedAt_of_mem (by rw [map_fst_zip_placeIdx]; exact sortedElems_keys thr B) (w := (e, idx))
      (List.mem_of_getElem? (List.getElem?_zip_eq_some.mpr ⟨he, hi⟩))]

end GoSquare
