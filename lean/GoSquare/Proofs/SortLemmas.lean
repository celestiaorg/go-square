/-! Stable sorting, as pure list facts: `List.mergeSort` keeps elements that compare equivalent in
    their input order, and a duplicate-free list has only one sorted arrangement that does so. -/
namespace GoSquare.StableSort
open List

theorem pairwise_insert {α : Type} {S : α → α → Prop} {A C : List α} {x : α} (h : (A ++ C).Pairwise S)
    (hA : ∀ a ∈ A, S a x) (hC : ∀ c ∈ C, S x c) : (A ++ x :: C).Pairwise S := by
  rw [List.pairwise_append] at h ⊢
  refine ⟨h.1, List.pairwise_cons.mpr ⟨hC, h.2.1⟩, ?_⟩
  intro a ha b hb
  rcases List.mem_cons.mp hb with rfl | hb
  · exact hA a ha
  · exact h.2.2 a ha b hb

/-- stability of `mergeSort`; `R` describes the order of the input -/
theorem mergeSort_stable_pairwise {α : Type} {le : α → α → Bool} {R : α → α → Prop}
    (trans : ∀ (a b c : α), le a b → le b c → le a c)
    (total : ∀ (a b : α), le a b || le b a)
    {l : List α} (hR : l.Pairwise R) :
    (l.mergeSort le).Pairwise (fun a b => le b a = true → R a b) := by
  induction l with
  | nil => rw [List.mergeSort_nil]; exact List.Pairwise.nil
  | cons x l ih =>
    -- sorting puts `x` behind elements that are not `≥ x`, and in front of elements of `l`
    obtain ⟨l₁, l₂, h₁, h₂, h₃⟩ := List.mergeSort_cons trans total x l
    rw [List.pairwise_cons] at hR
    rw [h₁]
    refine pairwise_insert (h₂ ▸ ih hR.2) (fun a ha hxa => ?_) (fun c hc _ => ?_)
    · have := h₃ a ha
      rw [hxa] at this
      cases this
    · exact hR.1 c (List.mem_mergeSort.mp (h₂ ▸ List.mem_append_right l₁ hc))

/-- cut the list behind `a` for the one pair and behind `b` for the other, and compare the cuts -/
theorem pair_sublist_asymm {α : Type} {a b : α} {l : List α} (hn : l.Nodup) (h1 : [a, b] <+ l) (h2 : [b, a] <+ l) :
    False := by
  obtain ⟨r₁, r₂, rfl, ha, hb⟩ := List.cons_sublist_iff.mp h1
  obtain ⟨s₁, s₂, e, hb', ha'⟩ := List.cons_sublist_iff.mp h2
  have hd := (List.nodup_append.mp hn).2.2
  rcases List.append_eq_append_iff.mp e with ⟨m, rfl, rfl⟩ | ⟨m, rfl, rfl⟩
  · exact hd a ha a (List.mem_append_right m (List.singleton_sublist.mp ha')) rfl
  · exact hd b (List.mem_append_left m hb') b (List.singleton_sublist.mp hb) rfl

/-- (C07) uniqueness of stable sorting: two permutations of a duplicate-free `l`, both sorted for `le`
    and both keeping ties in the order they have in `l`, are equal -/
theorem stable_sort_unique {α : Type} {le : α → α → Bool} {l l1 l2 : List α} (hn : l.Nodup)
    (hp1 : l1.Perm l) (hp2 : l2.Perm l)
    (hs1 : l1.Pairwise (fun a b => le a b = true)) (hs2 : l2.Pairwise (fun a b => le a b = true))
    (hst1 : l1.Pairwise (fun a b => le b a = true → [a, b] <+ l))
    (hst2 : l2.Pairwise (fun a b => le b a = true → [a, b] <+ l)) : l1 = l2 := by
  -- both are sorted for "`le`, ties by position in `l`", which no two elements satisfy both ways
  refine List.Perm.eq_of_pairwise (le := fun a b => le a b = true ∧ (le b a = true → [a, b] <+ l)) ?_
    (hs1.and hst1) (hs2.and hst2) (hp1.trans hp2.symm)
  intro a b _ _ hab hba
  exact (pair_sublist_asymm hn (hab.2 hba.1) (hba.2 hab.1)).elim

theorem mergeSort_stable_sublist {α : Type} {le : α → α → Bool}
    (trans : ∀ (a b c : α), le a b → le b c → le a c)
    (total : ∀ (a b : α), le a b || le b a)
    (l : List α) : (l.mergeSort le).Pairwise (fun a b => le b a = true → [a, b] <+ l) :=
  mergeSort_stable_pairwise trans total (List.pairwise_iff_forall_sublist.mpr fun h => h)

theorem eq_mergeSort_of_stable {α : Type} {le : α → α → Bool}
    (trans : ∀ (a b c : α), le a b → le b c → le a c)
    (total : ∀ (a b : α), le a b || le b a)
    {l l1 : List α} (hn : l.Nodup) (hp1 : l1.Perm l)
    (hs1 : l1.Pairwise (fun a b => le a b = true))
    (hst1 : l1.Pairwise (fun a b => le b a = true → [a, b] <+ l)) : l1 = l.mergeSort le :=
  stable_sort_unique hn hp1 (List.mergeSort_perm l le) hs1
    (List.pairwise_mergeSort trans total l) hst1 (mergeSort_stable_sublist trans total l)

theorem mergeSort_sort_prefix {α : Type} {le : α → α → Bool}
    (trans : ∀ (a b c : α), le a b → le b c → le a c)
    (total : ∀ (a b : α), le a b || le b a)
    {A C : List α} (hn : (A ++ C).Nodup) : (A.mergeSort le ++ C).mergeSort le = (A ++ C).mergeSort le := by
  refine eq_mergeSort_of_stable trans total hn
    ((List.mergeSort_perm _ le).trans ((List.mergeSort_perm A le).append_right C))
    (List.pairwise_mergeSort trans total _) ?_
  -- ties keep the order of `A.mergeSort le ++ C`, in which they have the order of `A ++ C`
  refine (mergeSort_stable_pairwise (R := fun a b => le b a = true → [a, b] <+ A ++ C) trans total ?_).imp
    fun h hba => h hba hba
  refine List.pairwise_append.mpr ⟨?_, ?_, fun a ha b hb _ => ?_⟩
  · exact (mergeSort_stable_sublist trans total A).imp fun h hba => (h hba).trans (List.sublist_append_left A C)
  · exact List.pairwise_iff_forall_sublist.mpr fun h _ => h.trans (List.sublist_append_right A C)
  · exact (List.singleton_sublist.mpr (List.mem_mergeSort.mp ha)).append (List.singleton_sublist.mpr hb)

end GoSquare.StableSort
