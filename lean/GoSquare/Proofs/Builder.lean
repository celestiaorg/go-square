import GoSquare.Proofs.Counter
import GoSquare.Proofs.Bytes
import GoSquare.Model.Builder
/-! The builder's running estimate against the closed-form worst-case rule (C06, C01, C07):
    an invariant over every append history. -/
namespace GoSquare

def unitBytes (n : Nat) : Nat := n + uvarintLen n

def worstLen (t : BlobTx) : Nat := (newIndexWrapper t.tx (worstCaseShareIndexes t.blobs.length)).size

/-- shares the estimate reserves for one blob: its shares plus worst-case padding, subtree width − 1 -/
def reservation (thr : Nat) (b : Blob) : Nat :=
  (newElement b 0 0 thr).maxShareOffset

def closedEstimate (thr : Nat) (normals : List Bytes) (btxs : List BlobTx) : Nat :=
  sizeOf ((normals.map (fun t => unitBytes t.length)).sum) +
  sizeOf ((btxs.map (fun t => unitBytes (worstLen t))).sum) +
  ((btxs.map (fun t => (t.blobs.map (reservation thr)).sum)).sum)

def elementsOf (thr p : Nat) (t : BlobTx) : List Element := t.blobs.mapIdx (fun j b => newElement b p j thr)

def allElements (thr : Nat) (btxs : List BlobTx) : List Element :=
  (btxs.mapIdx (fun p t => elementsOf thr p t)).flatten

/-- the builder has kept exactly `normals` and `btxs`; the counters' `last*` fields are left free (a
    refused append changes them) -/
structure Kept (b : Builder) (normals : List Bytes) (btxs : List BlobTx) : Prop where
  txs : b.txs = normals
  pfbs : b.pfbs = btxs.map (fun t => newIndexWrapper t.tx (worstCaseShareIndexes t.blobs.length))
  blobs : b.blobs = allElements b.thr btxs
  txC : b.txCounter.At ((normals.map (fun t => unitBytes t.length)).sum)
  pfbC : b.pfbCounter.At ((btxs.map (fun t => unitBytes (worstLen t))).sum)
  size : b.currentSize = (closedEstimate b.thr normals btxs : Nat)
  fit : closedEstimate b.thr normals btxs ≤ b.maxSquareSize * b.maxSquareSize

theorem Counter.add_unit {c : Counter} {T : Nat} (h : c.At T) (n : Nat) :
    (c.add n).1.At (T + unitBytes n) ∧ (c.add n).1.revert.At T ∧
    sizeOf T ≤ sizeOf (T + unitBytes n) ∧
    (c.add n).2 = (sizeOf (T + unitBytes n) : Int) - (sizeOf T : Int) := by
  obtain ⟨hat, hls, hlr⟩ := Counter.add_at c T n h
  refine ⟨hat, ?_, sizeOf_mono (Nat.le_add_right _ _), ?_⟩
  · exact h
  · rw [Counter.add_diff, hat.size, h.size]; rfl

def Builder.acceptedTx (b : Builder) (t : Bytes) : Builder :=
  { b with txCounter := (b.txCounter.add t.length).1, txs := b.txs ++ [t],
           currentSize := b.currentSize + (b.txCounter.add t.length).2, done := false }
def Builder.refusedTx (b : Builder) (t : Bytes) : Builder :=
  { b with txCounter := (b.txCounter.add t.length).1.revert }

theorem Builder.appendTx_eq (b : Builder) (t : Bytes) :
    b.appendTx t = if b.currentSize + (b.txCounter.add t.length).2 ≤ ((b.maxSquareSize * b.maxSquareSize : Nat) : Int)
      then (b.acceptedTx t, true) else (b.refusedTx t, false) := by
  unfold Builder.appendTx Builder.canFit Builder.acceptedTx Builder.refusedTx
  simp only [decide_eq_true_eq]

@[simp] theorem Builder.appendTx_thr (b : Builder) (t : Bytes) : (b.appendTx t).1.thr = b.thr := by
  rw [Builder.appendTx_eq]; split <;> rfl

@[simp] theorem Builder.appendTx_max (b : Builder) (t : Bytes) :
    (b.appendTx t).1.maxSquareSize = b.maxSquareSize := by
  rw [Builder.appendTx_eq]; split <;> rfl

/-- (C06, C01) `AppendTx` accepts exactly when the closed-form estimate with the transaction still fits -/
theorem appendTx_spec (b : Builder) (normals : List Bytes) (btxs : List BlobTx) (t : Bytes) (h : Kept b normals btxs) :
    ((b.appendTx t).2 = true ↔ closedEstimate b.thr (normals ++ [t]) btxs ≤ b.maxSquareSize * b.maxSquareSize) ∧
    ((b.appendTx t).2 = true → Kept (b.appendTx t).1 (normals ++ [t]) btxs ∧
        (b.appendTx t).1.thr = b.thr ∧ (b.appendTx t).1.maxSquareSize = b.maxSquareSize) ∧
    ((b.appendTx t).2 = false → Kept (b.appendTx t).1 normals btxs ∧
        (b.appendTx t).1.thr = b.thr ∧ (b.appendTx t).1.maxSquareSize = b.maxSquareSize ∧
        (b.appendTx t).1.done = b.done) := by
  obtain ⟨htxs, hpfbs, hblobs, htxC, hpfbC, hsize, hfit⟩ := h
  obtain ⟨hat, hrev, hmono, hd⟩ := Counter.add_unit htxC t.length
  have hsz : b.currentSize + (b.txCounter.add t.length).2 = ((closedEstimate b.thr (normals ++ [t]) btxs : Nat) : Int) := by
    rw [hsize]; unfold closedEstimate; rw [sum_map_append]; omega
  rw [Builder.appendTx_eq]
  simp only [hsz, Int.ofNat_le]
  split
  · rename_i hacc
    refine ⟨⟨fun _ => hacc, fun _ => rfl⟩, fun _ => ⟨⟨?_, hpfbs, hblobs, ?_, hpfbC, hsz, hacc⟩, rfl, rfl⟩, nofun⟩
    · show b.txs ++ [t] = normals ++ [t]
      rw [htxs]
    · rw [sum_map_append]; exact hat
  · rename_i hacc
    exact ⟨⟨nofun, fun hc => absurd hc hacc⟩, nofun, fun _ => ⟨⟨htxs, hpfbs, hblobs, hrev, hpfbC, hsize, hfit⟩, rfl, rfl, rfl⟩⟩

theorem elements_sum (thr p : Nat) (t : BlobTx) :
    ((elementsOf thr p t).map Element.maxShareOffset).sum = (t.blobs.map (reservation thr)).sum := by
  rw [elementsOf, map_mapIdx_const Element.maxShareOffset (reservation thr) t.blobs (fun j b => newElement b p j thr)
    (fun _ _ => rfl)]

theorem allElements_append (thr : Nat) (btxs : List BlobTx) (t : BlobTx) :
    allElements thr (btxs ++ [t]) = allElements thr btxs ++ elementsOf thr btxs.length t := by
  simp [allElements]

def Builder.acceptedBlobTx (b : Builder) (t : BlobTx) : Builder :=
  let iw := newIndexWrapper t.tx (worstCaseShareIndexes t.blobs.length)
  { b with pfbCounter := (b.pfbCounter.add iw.size).1,
           blobs := b.blobs ++ elementsOf b.thr b.pfbs.length t,
           pfbs := b.pfbs ++ [iw],
           currentSize := b.currentSize + ((b.pfbCounter.add iw.size).2 +
             (((elementsOf b.thr b.pfbs.length t).map Element.maxShareOffset).sum : Nat)),
           done := false }
def Builder.refusedBlobTx (b : Builder) (t : BlobTx) : Builder :=
  { b with pfbCounter := (b.pfbCounter.add (newIndexWrapper t.tx (worstCaseShareIndexes t.blobs.length)).size).1.revert }

theorem Builder.appendBlobTx_eq (b : Builder) (t : BlobTx) :
    b.appendBlobTx t =
      if b.currentSize + ((b.pfbCounter.add (worstLen t)).2 +
          (((elementsOf b.thr b.pfbs.length t).map Element.maxShareOffset).sum : Nat)) ≤
          ((b.maxSquareSize * b.maxSquareSize : Nat) : Int)
      then (b.acceptedBlobTx t, true) else (b.refusedBlobTx t, false) := by
  unfold Builder.appendBlobTx Builder.canFit Builder.acceptedBlobTx Builder.refusedBlobTx elementsOf worstLen
  simp only [decide_eq_true_eq]

@[simp] theorem Builder.appendBlobTx_thr (b : Builder) (t : BlobTx) : (b.appendBlobTx t).1.thr = b.thr := by
  rw [Builder.appendBlobTx_eq]; split <;> rfl

@[simp] theorem Builder.appendBlobTx_max (b : Builder) (t : BlobTx) :
    (b.appendBlobTx t).1.maxSquareSize = b.maxSquareSize := by
  rw [Builder.appendBlobTx_eq]; split <;> rfl

/-- (C06, C01) the same for `AppendBlobTx`: worst-case wrapped PFB size, every blob reserving its shares
    plus subtree width − 1 padding -/
theorem appendBlobTx_spec (b : Builder) (normals : List Bytes) (btxs : List BlobTx) (t : BlobTx)
    (h : Kept b normals btxs) :
    ((b.appendBlobTx t).2 = true ↔ closedEstimate b.thr normals (btxs ++ [t]) ≤ b.maxSquareSize * b.maxSquareSize) ∧
    ((b.appendBlobTx t).2 = true → Kept (b.appendBlobTx t).1 normals (btxs ++ [t]) ∧
        (b.appendBlobTx t).1.thr = b.thr ∧ (b.appendBlobTx t).1.maxSquareSize = b.maxSquareSize) ∧
    ((b.appendBlobTx t).2 = false → Kept (b.appendBlobTx t).1 normals btxs ∧
        (b.appendBlobTx t).1.thr = b.thr ∧ (b.appendBlobTx t).1.maxSquareSize = b.maxSquareSize ∧
        (b.appendBlobTx t).1.done = b.done) := by
  obtain ⟨htxs, hpfbs, hblobs, htxC, hpfbC, hsize, hfit⟩ := h
  obtain ⟨hat, hrev, hmono, hd⟩ := Counter.add_unit hpfbC (worstLen t)
  have hpl : b.pfbs.length = btxs.length := by rw [hpfbs, List.length_map]
  have hsz : b.currentSize + ((b.pfbCounter.add (worstLen t)).2 +
      (((elementsOf b.thr b.pfbs.length t).map Element.maxShareOffset).sum : Nat)) =
      ((closedEstimate b.thr normals (btxs ++ [t]) : Nat) : Int) := by
    rw [hsize, elements_sum]; unfold closedEstimate; rw [sum_map_append, sum_map_append]; omega
  rw [Builder.appendBlobTx_eq]
  simp only [hsz, Int.ofNat_le]
  split
  · rename_i hacc
    refine ⟨⟨fun _ => hacc, fun _ => rfl⟩, fun _ => ⟨⟨htxs, ?_, ?_, htxC, ?_, hsz, hacc⟩, rfl, rfl⟩, nofun⟩
    · show b.pfbs ++ [newIndexWrapper t.tx (worstCaseShareIndexes t.blobs.length)] = _
      rw [hpfbs, List.map_append]; rfl
    · show b.blobs ++ elementsOf b.thr b.pfbs.length t = allElements b.thr (btxs ++ [t])
      rw [allElements_append, hblobs, hpl]
    · rw [sum_map_append]; exact hat
  · rename_i hacc
    exact ⟨⟨nofun, fun hc => absurd hc hacc⟩, nofun, fun _ => ⟨⟨htxs, hpfbs, hblobs, htxC, hrev, hsize, hfit⟩, rfl, rfl, rfl⟩⟩

theorem Kept.appendTx {b : Builder} {N : List Bytes} {B : List BlobTx} (h : Kept b N B) (t : Bytes) :
    Kept (b.appendTx t).1 (if (b.appendTx t).2 then N ++ [t] else N) B := by
  obtain ⟨_, hacc, href⟩ := appendTx_spec b N B t h
  cases ha : (b.appendTx t).2
  · exact (href ha).1
  · exact (hacc ha).1

theorem Kept.appendBlobTx {b : Builder} {N : List Bytes} {B : List BlobTx} (h : Kept b N B) (t : BlobTx) :
    Kept (b.appendBlobTx t).1 N (if (b.appendBlobTx t).2 then B ++ [t] else B) := by
  obtain ⟨_, hacc, href⟩ := appendBlobTx_spec b N B t h
  cases ha : (b.appendBlobTx t).2
  · exact (href ha).1
  · exact (hacc ha).1

theorem closedEstimate_le_append (thr : Nat) (N N' : List Bytes) (B B' : List BlobTx) :
    closedEstimate thr N B ≤ closedEstimate thr (N ++ N') (B ++ B') := by
  unfold closedEstimate
  simp only [List.map_append, List.sum_append]
  exact Nat.add_le_add (Nat.add_le_add (sizeOf_mono (Nat.le_add_right _ _)) (sizeOf_mono (Nat.le_add_right _ _)))
    (Nat.le_add_right _ _)

theorem Builder.new_eq_ok {max thr : Nat} {b : Builder} :
    Builder.new max thr = .ok b ↔
      max ≠ 0 ∧ isPowerOfTwo max = true ∧ b = { maxSquareSize := max, thr := thr } := by
  unfold Builder.new
  by_cases h0 : max = 0
  · rw [if_pos h0]; exact ⟨nofun, fun h => absurd h0 h.1⟩
  rw [if_neg h0]
  cases hp : isPowerOfTwo max
  · exact ⟨nofun, fun h => nomatch h.2.1⟩
  · exact ⟨fun h => ⟨h0, rfl, (Except.ok.inj h).symm⟩, fun h => by rw [h.2.2]; rfl⟩

theorem kept_new (max thr : Nat) (b : Builder) (h : Builder.new max thr = .ok b) :
    Kept b [] [] ∧ b.thr = thr ∧ b.maxSquareSize = max := by
  obtain ⟨_, _, rfl⟩ := Builder.new_eq_ok.mp h
  exact ⟨⟨rfl, rfl, rfl, ⟨rfl, rfl⟩, ⟨rfl, rfl⟩, rfl, Nat.zero_le _⟩, rfl, rfl⟩

theorem Builder.new_done {max thr : Nat} {b : Builder} (h : Builder.new max thr = .ok b) : b.done = false := by
  obtain ⟨_, _, rfl⟩ := Builder.new_eq_ok.mp h
  rfl

theorem Builder.appendTx_done (b : Builder) (t : Bytes) (h : (b.appendTx t).2 = true) :
    (b.appendTx t).1.done = false := by
  rw [Builder.appendTx_eq] at h ⊢
  split
  · rfl
  · rename_i hc; rw [if_neg hc] at h; cases h

theorem Builder.appendBlobTx_done (b : Builder) (t : BlobTx) (h : (b.appendBlobTx t).2 = true) :
    (b.appendBlobTx t).1.done = false := by
  rw [Builder.appendBlobTx_eq] at h ⊢
  split
  · rfl
  · rename_i hc; rw [if_neg hc] at h; cases h

theorem Builder.ensureExported_done (b : Builder) (hd : b.done = true) : b.ensureExported = .ok b := by
  unfold Builder.ensureExported
  rw [hd]; rfl

theorem Builder.ensureExported_of_export (b b' : Builder) (sq : List Bytes) (hd : b.done = false)
    (h : b.exportSquare = .ok (b', sq)) :
    b.ensureExported = .ok b' ∧ b'.ensureExported = .ok b' := by
  have h1 : b.ensureExported = .ok b' := by
    unfold Builder.ensureExported
    rw [hd, h]
    rfl
  refine ⟨h1, ?_⟩
  obtain ⟨⟨upd, sq'⟩, _, h2⟩ := res_bind_ok' h
  -- `Export` leaves a builder that has kept nothing as it is, and otherwise marks it done
  cases upd <;> cases h2
  · exact h1
  · exact Builder.ensureExported_done _ rfl

theorem Builder.exportSquare_map_snd (b : Builder) :
    b.exportSquare.map (·.2) =
      (Builder.exportCore b.thr b.currentSize b.txs b.pfbs b.blobs b.txCounter.size b.pfbCounter.size).map (·.2) := by
  unfold Builder.exportSquare
  cases Builder.exportCore b.thr b.currentSize b.txs b.pfbs b.blobs b.txCounter.size b.pfbCounter.size with
  | error e => rfl
  | ok r =>
    obtain ⟨upd, sq⟩ := r
    cases upd <;> rfl

end GoSquare
