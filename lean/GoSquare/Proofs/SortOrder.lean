import GoSquare.Proofs.ExportKept
import GoSquare.Proofs.SortLemmas
import GoSquare.Proofs.Namespace
/-! C04/C03: the write order of the blobs. `Builder.Export` sorts the elements with
    `sort.SliceStable` by namespace (`elemLe`), modelled by the stable `List.mergeSort`.
    Blobs are written ordered by namespace; ties are broken by the position of the blob
    transaction among the kept ones and then by the position inside the transaction. -/
namespace GoSquare
open Builder

theorem elemLe_trans (a b c : Element) : elemLe a b = true → elemLe b c = true → elemLe a c = true := by
  simp only [elemLe, decide_eq_true_eq]
  exact cmpBytes_le_trans _ _ _

theorem elemLe_total (a b : Element) : (elemLe a b || elemLe b a) = true := by
  simp only [elemLe, Bool.or_eq_true, decide_eq_true_eq]
  have := cmpBytes_swap a.blob.ns b.blob.ns
  omega

theorem elemLe_of_ns_eq {a b : Element} (h : a.blob.ns = b.blob.ns) : elemLe a b = true := by
  simp only [elemLe, decide_eq_true_eq]
  rw [(cmpBytes_eq_iff _ _).mpr h]
  exact Int.le_refl 0

def elemLex (a b : Element) : Prop :=
  a.pfbIndex < b.pfbIndex ∨ (a.pfbIndex = b.pfbIndex ∧ a.blobIndex < b.blobIndex)

theorem pfbIndex_of_mem_elementsOf {thr p : Nat} {t : BlobTx} {e : Element}
    (h : e ∈ elementsOf thr p t) : e.pfbIndex = p := by
  simp only [elementsOf, List.mem_mapIdx] at h
  obtain ⟨i, hi, rfl⟩ := h
  rfl

theorem allElements_lex (thr : Nat) (B : List BlobTx) : (allElements thr B).Pairwise elemLex := by
  unfold allElements
  rw [List.pairwise_flatten]
  constructor
  · intro l hl
    simp only [List.mem_mapIdx] at hl
    obtain ⟨p, hp, rfl⟩ := hl
    have hj : (elementsOf thr p B[p]).Pairwise (fun a b => a.blobIndex < b.blobIndex) := by
      rw [List.pairwise_iff_getElem]
      intro i j hi hj hij
      simp only [elementsOf, List.getElem_mapIdx]
      exact hij
    refine hj.imp_of_mem ?_
    intro a b ha hb hab
    exact Or.inr ⟨by rw [pfbIndex_of_mem_elementsOf ha, pfbIndex_of_mem_elementsOf hb], hab⟩
  · rw [List.pairwise_iff_getElem]
    intro i j hi hj hij x hx y hy
    simp only [List.getElem_mapIdx] at hx hy
    left
    rw [pfbIndex_of_mem_elementsOf hx, pfbIndex_of_mem_elementsOf hy]
    exact hij

theorem allElements_nodup (thr : Nat) (B : List BlobTx) : (allElements thr B).Nodup := by
  refine (allElements_lex thr B).imp ?_
  intro a b h hab
  subst hab
  unfold elemLex at h
  omega

/-- (C04) namespace order -/
theorem sortedElems_sorted (thr : Nat) (B : List BlobTx) :
    (sortedElems thr B).Pairwise (fun a b => cmpBytes a.blob.ns b.blob.ns ≤ 0) :=
  (List.pairwise_mergeSort (le := elemLe) elemLe_trans elemLe_total (allElements thr B)).imp
    (fun h => of_decide_eq_true h)

theorem sortedElems_perm (thr : Nat) (B : List BlobTx) : (sortedElems thr B).Perm (allElements thr B) :=
  List.mergeSort_perm _ _

/-- (C04) ties keep the append order -/
theorem sortedElems_stable (thr : Nat) (B : List BlobTx) :
    (sortedElems thr B).Pairwise (fun a b => a.blob.ns = b.blob.ns →
      (a.pfbIndex < b.pfbIndex ∨ (a.pfbIndex = b.pfbIndex ∧ a.blobIndex < b.blobIndex))) :=
  (StableSort.mergeSort_stable_pairwise elemLe_trans elemLe_total (allElements_lex thr B)).imp
    fun hab hns => hab (elemLe_of_ns_eq hns.symm)

theorem mergeSort_elemLe_idem (l : List Element) : (l.mergeSort elemLe).mergeSort elemLe = l.mergeSort elemLe :=
  List.mergeSort_of_pairwise (List.pairwise_mergeSort elemLe_trans elemLe_total l)

theorem sortedElems_idem (thr : Nat) (B : List BlobTx) : (sortedElems thr B).mergeSort elemLe = sortedElems thr B :=
  mergeSort_elemLe_idem _

end GoSquare
