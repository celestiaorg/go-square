import GoSquare.Proofs.C04Core
import GoSquare.Proofs.Deconstruct
import GoSquare.Proofs.ProtoMsg
/-! (C02) Every wrapped PFB of the closed-form square satisfies what the `Deconstruct` loop needs. -/
namespace GoSquare
open Spec

/-- a canonically encoded blob transaction, as C02 quantifies over it. `txSmall` and `blobsSmall` are
    what `C19.SmallIW` asks of the wrapper that `Deconstruct` unmarshals: the varint round trip is
    proved for field lengths below `2^63` (a Go `int` length always is), and with fewer than `2^32`
    blobs the packed index field, at most 9 bytes per blob, stays below that. -/
structure CanonBlobTx (dec : Bytes → Decoded) (pfbDec : Bytes → Res (List Nat)) (raw : Bytes) : Prop where
  isBlobTx : dec raw = .blobTx (decB dec raw)
  nonEmpty : (decB dec raw).blobs ≠ []
  sizes : pfbDec (decB dec raw).tx = .ok ((decB dec raw).blobs.map (·.data.length))
  marshal : marshalBlobTx (decB dec raw).tx (decB dec raw).blobs = some raw
  txSmall : (decB dec raw).tx.length < 2 ^ 63
  blobsSmall : (decB dec raw).blobs.length < 4294967296

theorem flatten_uvarint_le (idx : List Nat) (h : ∀ v ∈ idx, v < 4294967296) :
    ((idx.map uvarint).flatten).length ≤ 9 * idx.length := by
  rw [packed_length]
  induction idx with
  | nil => exact Nat.le_refl 0
  | cons v idx ih =>
    have h9 := uvarintLen_le_nine v (Nat.lt_trans (h v List.mem_cons_self) (by decide))
    have := ih (fun x hx => h x (List.mem_cons_of_mem _ hx))
    rw [List.map_cons, List.sum_cons, List.length_cons]
    omega

theorem pfbOK_of_patched (dec : Bytes → Decoded) (pfbDec : Bytes → Res (List Nat)) (thr : Nat) (N bl : List Bytes)
    (ss : Nat) (hv : ∀ t ∈ bl.map (decB dec), ∀ b ∈ t.blobs, b.BlobValid)
    (h1 : (compactSeq txNamespace N).length +
        (compactSeq payForBlobNamespace ((patched thr N (bl.map (decB dec))).map (·.marshal))).length ≤
        firstIdx thr (startOf N (bl.map (decB dec))) (sortedElems thr (bl.map (decB dec))))
    (hlen : (squareOf thr N (bl.map (decB dec)) ss).length < 4294967296)
    (p : Nat) (raw : Bytes) (iw : Proto.IndexWrapper) (hp : bl[p]? = some raw)
    (hiw : (patched thr N (bl.map (decB dec)))[p]? = some iw) (hc : CanonBlobTx dec pfbDec raw) :
    PfbOK (squareOf thr N (bl.map (decB dec)) ss) pfbDec iw (decB dec raw).blobs raw := by
  have hB := decB_getElem? dec hp
  obtain ⟨iw', hiw', htx, htid, hlenI⟩ := patched_getElem? thr N _ p _ hB
  rw [hiw] at hiw'
  cases hiw'
  have hrec : ∀ (j : Nat) (b : Blob), (decB dec raw).blobs[j]? = some b →
      ∃ idx, iw.shareIndexes[j]? = some (u32 idx) ∧ BlobAt (squareOf thr N (bl.map (decB dec)) ss) idx b := by
    intro j b hj
    obtain ⟨_, idx, iw', _, r1, _, _, _, r6, r7, _⟩ := C04.blob_recorded thr N _ ss hv h1 p j _ b hB hj
    rw [hiw] at r1
    cases r1
    exact ⟨idx, r6, fit_of_window (sparseSeq_pos b) r7, r7⟩
  have hall : ∀ v ∈ iw.shareIndexes, v < 4294967296 := by
    intro v hvm
    obtain ⟨j, hj, rfl⟩ := List.mem_iff_getElem.mp hvm
    obtain ⟨idx, h4, _⟩ := hrec j _ (List.getElem?_eq_getElem (hlenI ▸ hj))
    rw [List.getElem?_eq_getElem hj, Option.some.injEq] at h4
    rw [h4]
    exact u32_lt idx
  refine ⟨?_, ?_, hlenI, htx ▸ hc.sizes, ?_, ?_, htx ▸ hc.marshal⟩
  · -- `iw` is `newIndexWrapper` of its parts, all small enough to round-trip
    have hsmall : ((iw.shareIndexes.map uvarint).flatten).length < 2 ^ 63 := by
      have := flatten_uvarint_le iw.shareIndexes hall
      have := hc.blobsSmall
      omega
    have := C19.unmarshalIndexWrapper_marshal iw.tx iw.shareIndexes (htx ▸ hc.txSmall) hall hsmall
    unfold marshalIndexWrapper at this
    rwa [show newIndexWrapper iw.tx iw.shareIndexes = iw by cases iw; exact congrArg _ htid.symm] at this
  · rw [hlenI]
    exact fun h0 => hc.nonEmpty (List.eq_nil_of_length_eq_zero h0)
  · exact fun b hb => hv _ (List.mem_map.mpr ⟨raw, List.mem_of_getElem? hp, rfl⟩) b hb
  · intro j v b hjv hjb
    obtain ⟨idx, h4, h5⟩ := hrec j b hjb
    rw [hjv, Option.some.injEq] at h4
    -- the recorded index is below the length of the square, so `uint32` has not truncated it
    rw [h4, u32_of_lt (Nat.lt_of_le_of_lt (Nat.le_trans (Nat.le_add_right _ _) h5.1) hlen)]
    exact h5

end GoSquare
