import GoSquare.Proofs.ShareForm
import GoSquare.Proofs.Counter
/-! The sparse writer refines the specified format, `sparseWrite acc blob = acc ++ Spec.sparseSeq blob` (C10; the
    base of C08, C13, C05); how many shares that is and what the accessors return on them; the padding writers. -/
namespace GoSquare
open Spec

theorem u32_lt (n : Nat) : u32 n < 4294967296 := Nat.mod_lt _ (by decide)

theorem u32_of_lt {n : Nat} (h : n < 4294967296) : u32 n = n := Nat.mod_eq_of_lt h

/-- what the writer theorems need of a blob: part of what `NewBlob` and `ValidateForBlob` establish (the rest is in
    `Blob.BlobValid`), and a data length that fits `uint32` -/
structure Blob.Valid (b : Blob) : Prop where
  nsLen : b.ns.length = 29
  notCompact : isCompactNs b.ns = false
  ver : b.ver = 0 ∨ b.ver = 1
  signer : (b.ver = 0 → b.signer = none) ∧ (b.ver = 1 → ∃ s, b.signer = some s ∧ s.length = 20)
  dataPos : 1 ≤ b.data.length
  dataLt : b.data.length < 4294967296

/-- the signer bytes of the first share, as `Spec.sparseSeq` has them -/
theorem Blob.Valid.signer_length {b : Blob} (hb : b.Valid) :
    (if b.ver = 1 then b.signer.getD [] else ([] : Bytes)).length = if b.ver = 1 then 20 else 0 := by
  rcases hb.ver with h | h
  · simp [h]
  · obtain ⟨sg, hsg, hl⟩ := hb.signer.2 h
    simp [h, hsg, hl]

theorem Blob.Valid.signer_le {b : Blob} (hb : b.Valid) :
    (if b.ver = 1 then b.signer.getD [] else ([] : Bytes)).length ≤ 20 := by
  rw [hb.signer_length]; split <;> omega

theorem Blob.Valid.ver_le {b : Blob} (hb : b.Valid) : b.ver ≤ 127 := by
  have := hb.ver; omega

theorem Blob.new_eq_some_iff {ns data : Bytes} {ver : Nat} {signer : Option Bytes} {b : Blob} :
    Blob.new ns data ver signer = some b ↔
      (data ≠ [] ∧ ns ≠ [] ∧ Ns.version ns = 0 ∧
        ((ver = 0 ∧ signer = none) ∨ (ver = 1 ∧ ∃ s, signer = some s ∧ s.length = 20))) ∧
      b = { ns, data, ver, signer } := by
  unfold Blob.new
  by_cases hd : data = []
  · simp [hd]
  by_cases hn : ns = []
  · simp [hn]
  by_cases hv : Ns.version ns = 0
  · simp only [List.length_eq_zero_iff, hd, hn, hv, ne_eq]
    by_cases h0 : ver = 0
    · cases signer <;> simp [h0, eq_comm]
    by_cases h1 : ver = 1
    · cases signer <;> simp [h1, eq_comm]
    · simp [h0, h1]
  · simp [hv]

theorem chunksOf_nil (n : Nat) : chunksOf n [] = [] := by rw [chunksOf]; simp
theorem chunksOf_cons (n : Nat) (d : Bytes) (hd : d ≠ []) (hn : n ≠ 0) :
    chunksOf n d = d.take n :: chunksOf n (d.drop n) := by
  rw [chunksOf]; simp [hd, hn]

theorem chunksOf_length (n : Nat) (hn : 1 ≤ n) (d : Bytes) : (chunksOf n d).length = (d.length + n - 1) / n := by
  induction d using chunksOf.induct n with
  | case1 d h =>
    rw [h.resolve_right (Nat.ne_of_gt hn), chunksOf_nil, List.length_nil]
    exact (ceilDiv_eq (by omega) (Nat.zero_le _)).symm
  | case2 d h ih =>
    have hpos : 0 < d.length := List.length_pos_iff.mpr (fun e => h (Or.inl e))
    rw [chunksOf_cons n d (fun e => h (Or.inl e)) (Nat.ne_of_gt hn), List.length_cons, ih, List.length_drop]
    rcases Nat.le_total d.length n with hle | hle
    · rw [Nat.sub_eq_zero_of_le hle, ceilDiv_eq (a := 0) (by omega) (Nat.zero_le _), ceilDiv_eq (a := 1) (by omega) (by omega)]
    · rw [← Nat.add_div_right _ hn, Nat.sub_add_cancel hle, Nat.sub_add_comm hpos]

theorem chunksOf_le (n : Nat) (d : Bytes) : ∀ c ∈ chunksOf n d, c.length ≤ n := by
  induction d using chunksOf.induct n with
  | case1 d h => rw [chunksOf]; simp [h]
  | case2 d h ih =>
    rw [chunksOf_cons n d (fun e => h (Or.inl e)) (fun e => h (Or.inr e))]
    intro c hc
    rcases List.mem_cons.mp hc with rfl | hc
    · simp [List.length_take]; omega
    · exact ih c hc

theorem chunksOf_fill_flatten (n : Nat) (hn : n ≠ 0) (d : Bytes) :
    ∃ k, ((chunksOf n d).map fun c => c ++ zeros (n - c.length)).flatten = d ++ zeros k := by
  induction d using chunksOf.induct n with
  | case1 d h => exact ⟨0, by rw [h.resolve_right hn, chunksOf_nil]; rfl⟩
  | case2 d h ih =>
    obtain ⟨k, hk⟩ := ih
    rw [chunksOf_cons n d (fun e => h (Or.inl e)) hn, List.map_cons, List.flatten_cons, hk]
    exact take_fill_append n d k

theorem newBuilder_eq (ns : Bytes) (ver : Nat) (first : Bool) (hv : ver ≤ 127) :
    ShareBuilder.new ns ver first =
      .ok { ns, ver, isFirst := first, isCompact := isCompactNs ns,
            raw := ns ++ [infoByte ver first] ++ (if first then zeros 4 else []) ++ (if isCompactNs ns then zeros 4 else []) } := by
  simp [ShareBuilder.new, newInfoByte, Nat.not_lt.mpr hv, infoByte, bind, Except.bind]

theorem zeroPad_build (b : ShareBuilder) (h : b.raw.length ≤ 512) :
    b.zeroPadIfNecessary.1.build = .ok (fill b.raw) ∧ b.zeroPadIfNecessary.2 = 512 - b.raw.length := by
  unfold ShareBuilder.zeroPadIfNecessary
  by_cases hfull : b.raw.length ≥ 512
  · simp [ShareBuilder.build, fill, zeros, show b.raw.length = 512 by omega]
  · rw [if_neg hfull]; simp [ShareBuilder.build, fill]; omega

theorem overwrite_inner (pre old new tail : Bytes) (h : old.length = new.length) :
    ShareBuilder.overwrite (pre ++ (old ++ tail)) pre.length new = .ok (pre ++ (new ++ tail)) := by
  unfold ShareBuilder.overwrite
  rw [← h, ← List.length_append, ← List.append_assoc]
  simp

theorem overwrite_seqLen (ns : Bytes) (info : UInt8) (x tail : Bytes) (n : Nat) (hns : ns.length = 29) (hx : x.length = 4) :
    ShareBuilder.overwrite (ns ++ [info] ++ x ++ tail) 30 (be32 n) = .ok (ns ++ [info] ++ be32 n ++ tail) := by
  have := overwrite_inner (ns ++ [info]) x (be32 n) tail (by simp [hx])
  simpa [hns] using this

theorem sparseLoop_spec (ns : Bytes) (ver : Nat) (hns : ns.length = 29) (hv : ver ≤ 127)
    (hc : isCompactNs ns = false) (fuel : Nat) (b : ShareBuilder) (data : Bytes) (acc : List Bytes)
    (hf : data.length < fuel) (hd : data ≠ []) (hp : b.raw.length < 512) :
    sparseLoop ns ver fuel b data acc =
      .ok (acc ++ fill (b.raw ++ data.take (512 - b.raw.length)) ::
        (chunksOf 482 (data.drop (512 - b.raw.length))).map (fun c => fill (ns ++ [infoByte ver false] ++ c))) := by
  induction fuel generalizing b data acc with
  | zero => omega
  | succ fuel ih =>
    rw [sparseLoop]
    simp only [ShareBuilder.addData]
    by_cases hfit : data.length ≤ 512 - b.raw.length
    · rw [if_pos hfit, List.take_of_length_le hfit, List.drop_of_length_le hfit, chunksOf_nil]
      simp only [bind, Except.bind, (zeroPad_build { b with raw := b.raw ++ data } (by simp; omega)).1, List.map_nil]
    · rw [if_neg hfit]
      have hlen : (b.raw ++ data.take (512 - b.raw.length)).length = 512 := by
        rw [List.length_append, List.length_take_of_le (Nat.le_of_not_le hfit), Nat.add_sub_of_le (Nat.le_of_lt hp)]
      have hrest : data.drop (512 - b.raw.length) ≠ [] := fun e => hfit (List.drop_eq_nil_iff.mp e)
      simp only [ShareBuilder.build, hlen, if_true, bind, Except.bind, newBuilder_eq ns ver false hv, hc, Bool.false_eq_true,
        if_false, List.append_nil]
      rw [ih _ _ _ (by simp only [List.length_drop]; omega) hrest (by simp [hns]),
        show (ns ++ [infoByte ver false]).length = 30 by simp [hns], chunksOf_cons 482 _ hrest (by omega), fill_of_length hlen]
      simp [List.append_assoc]

/-- C10, and the writer half of C08: `SparseShareSplitter.Write` appends exactly the specified shares. -/
theorem sparseWrite_eq_spec (acc : List Bytes) (b : Blob) (hb : b.Valid) :
    sparseWrite acc b = .ok (acc ++ Spec.sparseSeq b) := by
  have hns := hb.nsLen
  have hvok : (b.ver == 0 || b.ver == 1) = true := by rcases hb.ver with h | h <;> simp [h]
  -- the signer as the specification has it
  have hws : ∀ raw : Bytes,
      (if b.ver = 1 then ShareBuilder.writeSigner ⟨b.ns, b.ver, true, false, raw⟩ (b.signer.getD []) else ⟨b.ns, b.ver, true, false, raw⟩)
        = ⟨b.ns, b.ver, true, false, raw ++ if b.ver = 1 then b.signer.getD [] else []⟩ := by
    rcases hb.ver with h | h <;> simp [h, ShareBuilder.writeSigner]
  have hsl := hb.signer_le
  have hov := overwrite_seqLen b.ns (infoByte b.ver true) (zeros 4) [] b.data.length hns (zeros_length 4)
  simp only [List.append_nil] at hov
  unfold sparseWrite
  simp only [hvok, Bool.not_true, Bool.false_eq_true, if_false, newBuilder_eq b.ns b.ver true hb.ver_le, hb.notCompact, if_true,
    List.append_nil, bind, Except.bind, ShareBuilder.writeSequenceLen, u32_of_lt hb.dataLt,
    hov, hws]
  rw [sparseLoop_spec b.ns b.ver hns hb.ver_le hb.notCompact _ _ b.data acc (Nat.lt_succ_self _) (List.ne_nil_of_length_pos hb.dataPos)
    (by simp [hns]; omega)]
  have : ∀ s : Bytes, 512 - (b.ns ++ [infoByte b.ver true] ++ be32 b.data.length ++ s).length = 478 - s.length := by
    intro s; simp only [List.length_append, hns]; exact Nat.sub_add_eq 512 34 _
  rw [this]
  simp only [Spec.sparseSeq]

theorem sparseSeq_pos (b : Blob) : 0 < (Spec.sparseSeq b).length := Nat.succ_pos _

/-- C13, sparse prediction, for share versions 0 and 1. -/
theorem sparseSeq_length (b : Blob) (hb : b.Valid) :
    (Spec.sparseSeq b).length = sparseSharesNeededWithSigner b.data.length (b.ver == 1) := by
  have hd := hb.dataPos
  rw [sparseSharesNeededWithSigner_eq, if_neg (by omega), Spec.sparseSeq, List.length_cons, List.length_map,
    chunksOf_length 482 (by omega), List.length_drop, hb.signer_length]
  generalize b.data.length = n at hd
  -- a signer of `s` bytes in the first share
  have key : ∀ s ≤ 20, (n - (478 - s) + 481) / 482 + 1 = (n + (485 + s)) / 482 := by omega
  rcases hb.ver with h | h
  · rw [h]; exact key 0 (by omega)
  · rw [h]; exact key 20 (by omega)

/-- C13, on `Blob.ToShares`. -/
theorem toShares_length (b : Blob) (hb : b.Valid) :
    ∃ sh, b.toShares = .ok sh ∧ sh = Spec.sparseSeq b ∧
      sh.length = sparseSharesNeededWithSigner b.data.length (b.ver == 1) := by
  refine ⟨Spec.sparseSeq b, ?_, rfl, sparseSeq_length b hb⟩
  simpa [Blob.toShares] using sparseWrite_eq_spec [] b hb

theorem first_share_reads (b : Blob) (hb : b.Valid) :
    let signer : Bytes := if b.ver = 1 then b.signer.getD [] else []
    let cap0 := 478 - signer.length
    let first := fill (b.ns ++ [infoByte b.ver true] ++ be32 b.data.length ++ signer ++ b.data.take cap0)
    first.length = 512 ∧ ShareDecoded first b.ns b.ver true ∧ Share.sequenceLen first = b.data.length ∧
      Share.signer first = b.signer ∧
      Share.rawData first = b.data.take cap0 ++ zeros (cap0 - (b.data.take cap0).length) := by
  intro signer cap0 first
  have hns := hb.nsLen
  have hv := hb.ver_le
  have hsl : signer.length = if b.ver = 1 then 20 else 0 := hb.signer_length
  have hle : signer.length ≤ 478 := Nat.le_trans hb.signer_le (by decide)
  generalize hP : b.data.take cap0 ++ zeros (cap0 - (b.data.take cap0).length) = P
  -- the share as the accessors see it
  have hform : first = b.ns ++ infoByte b.ver true :: (be32 b.data.length ++ (signer ++ P)) := by
    have e : 482 - (be32 b.data.length ++ (signer ++ b.data.take cap0)).length = cap0 - (b.data.take cap0).length := by
      simp only [List.length_append, be32_length, Nat.sub_add_eq, cap0]
    simp only [first, List.append_assoc]
    rw [← List.append_assoc b.ns, fill_share _ _ _ hns, e, ← hP]; simp only [List.append_assoc]
  rw [hform]
  refine ⟨?_, decoded_of_cons hns _ _ _ hv, ?_, ?_, ?_⟩
  · -- 29 + 1 + 4 + |signer| + cap0, the payload being filled up to cap0
    simp only [← hP, List.length_append, List.length_cons, be32_length, zeros_length, hns, cap0,
      Nat.add_sub_of_le (List.length_take_le _ _), Nat.add_sub_of_le hle]
  · rw [sequenceLen_of_cons hns _ _ _ hv, if_pos rfl, readBe32_be32 _ hb.dataLt]
  · rw [signer_of_cons hns _ _ _ hv]
    rcases hb.ver with h | h
    · simp [h, hb.signer.1 h]
    · obtain ⟨sg, hsgv, hl⟩ := hb.signer.2 h
      simp [h, signer, hsgv, hl]
  · rw [rawData_of_cons hns _ _ _ hv, hb.notCompact, ← List.append_assoc,
      List.drop_left' (by rcases hb.ver with h | h <;> simp [hsl])]

theorem cont_share_reads (b : Blob) (hb : b.Valid) (c : Bytes) :
    ShareDecoded (fill (b.ns ++ [infoByte b.ver false] ++ c)) b.ns b.ver false ∧
    Share.rawData (fill (b.ns ++ [infoByte b.ver false] ++ c)) = c ++ zeros (482 - c.length) := by
  refine ⟨fill_share_decoded hb.nsLen _ _ _ hb.ver_le, ?_⟩
  rw [fill_share _ _ _ hb.nsLen, rawData_of_cons hb.nsLen _ _ _ hb.ver_le, hb.notCompact]; rfl

theorem sparseSeq_mem (b : Blob) (hb : b.Valid) :
    ∀ s ∈ Spec.sparseSeq b, s.length = 512 ∧ Share.ns s = b.ns ∧ Share.version s = b.ver := by
  intro s hs
  rcases List.mem_cons.mp hs with rfl | hs
  · obtain ⟨h, d, -⟩ := first_share_reads b hb
    exact ⟨h, d.ns, d.version⟩
  · obtain ⟨c, hc, rfl⟩ := List.mem_map.mp hs
    have hc := chunksOf_le 482 _ c hc
    have d := (cont_share_reads b hb c).1
    exact ⟨fill_length (by simp [hb.nsLen]; omega), d.ns, d.version⟩

theorem sparseSeq_rawData (b : Blob) (hb : b.Valid) :
    ∃ k, ((sparseSeq b).map Share.rawData).flatten = b.data ++ zeros k := by
  obtain ⟨-, -, -, -, hraw⟩ := first_share_reads b hb
  rw [sparseSeq, List.map_cons, List.flatten_cons, hraw, List.map_map,
    List.map_congr_left (f := Share.rawData ∘ _) fun c _ => (cont_share_reads b hb c).2]
  obtain ⟨k, hk⟩ := chunksOf_fill_flatten 482 (by omega) (b.data.drop (478 - (if b.ver = 1 then b.signer.getD [] else []).length))
  rw [hk]
  exact take_fill_append _ _ k

theorem namespacePaddingShare_eq_spec (ns : Bytes) (ver : Nat) (hns : ns.length = 29) (hv : ver ≤ 127)
    (hc : isCompactNs ns = false) : namespacePaddingShare ns ver = .ok (Spec.paddingShare ns ver) := by
  have hov := overwrite_seqLen ns (infoByte ver true) (zeros 4) [] 0 hns (zeros_length 4)
  have hlen : (ns ++ [infoByte ver true] ++ be32 0 ++ []).length = 34 := by simp [hns]
  simp only [namespacePaddingShare, newBuilder_eq ns ver true hv, hc, if_true, bind, Except.bind, ShareBuilder.writeSequenceLen, Bool.false_eq_true, if_false, hov, ShareBuilder.addData]
  simp [ShareBuilder.build, hns, Spec.paddingShare, fill]

theorem namespacePaddingShares_eq_spec (ns : Bytes) (ver n : Nat) (hns : ns.length = 29) (hv : ver ≤ 127)
    (hc : isCompactNs ns = false) :
    namespacePaddingShares ns ver n = .ok (List.replicate n (Spec.paddingShare ns ver)) := by
  unfold namespacePaddingShares
  by_cases h : n = 0
  · simp [h]
  · simp [namespacePaddingShare_eq_spec ns ver hns hv hc, bind, Except.bind]

theorem sparseWritePadding_after (X : List Bytes) (p : Blob) (hp : p.Valid) (k : Nat) :
    sparseWritePadding (X ++ Spec.sparseSeq p) k = .ok (X ++ Spec.sparseSeq p ++ List.replicate k (Spec.paddingShare p.ns p.ver)) := by
  have hne : Spec.sparseSeq p ≠ [] := by simp [sparseSeq]
  unfold sparseWritePadding
  by_cases hk : k = 0
  · simp [hk]
  · simp only [hk]
    have hlast : (X ++ Spec.sparseSeq p).getLast? = some ((Spec.sparseSeq p).getLast hne) := by
      rw [List.getLast?_append]; rfl
    obtain ⟨-, hns, hver⟩ := sparseSeq_mem p hp _ (List.getLast_mem hne)
    rw [hlast]
    simp only [hns, hver]
    rw [namespacePaddingShares_eq_spec _ _ _ hp.nsLen hp.ver_le hp.notCompact]
    rfl

end GoSquare
