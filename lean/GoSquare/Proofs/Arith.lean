import GoSquare.Model.Arith
/-! Power-of-two rounding, ceiling division and alignment: the arithmetic of C15, which the layout
    proofs (C04, C06, C07) use as well. -/
namespace GoSquare

theorem roundUpPow2Aux_spec (fuel k input : Nat) (h : input ≤ 2 ^ (k + fuel)) :
    ∃ j, k ≤ j ∧ roundUpPow2Aux fuel (2 ^ k) input = 2 ^ j ∧ input ≤ 2 ^ j ∧ (j = k ∨ 2 ^ (j - 1) < input) := by
  induction fuel generalizing k with
  | zero => exact ⟨k, Nat.le_refl _, rfl, h, Or.inl rfl⟩
  | succ fuel ih =>
    rw [roundUpPow2Aux]
    by_cases hlt : 2 ^ k < input
    · rw [if_pos hlt]
      obtain ⟨j, hj, he, hle, hor⟩ := ih (k + 1) (Nat.add_right_comm k 1 fuel ▸ h)
      refine ⟨j, Nat.le_of_succ_le hj, he, hle, Or.inr ?_⟩
      rcases hor with rfl | hor
      · exact hlt
      · exact hor
    · rw [if_neg hlt]
      exact ⟨k, Nat.le_refl _, rfl, Nat.le_of_not_lt hlt, Or.inl rfl⟩

theorem roundUpPow2Aux_stable (f g r n : Nat) (h : n ≤ roundUpPow2Aux f r n) :
    roundUpPow2Aux (f + g) r n = roundUpPow2Aux f r n := by
  induction f generalizing r with
  | zero =>
    cases g with
    | zero => rfl
    | succ g => exact if_neg (Nat.not_lt.2 h)
  | succ f ih =>
    rw [Nat.add_right_comm, roundUpPow2Aux, roundUpPow2Aux]
    rw [roundUpPow2Aux] at h
    split
    · rw [if_pos ‹_›] at h
      exact ih _ h
    · rfl

/-- `2^63`: above it (`2^62` at a signed type) the loop variable of Go's `RoundUpPowerOfTwo` overflows and the loop
    does not end; the 64 doublings of the model would go on to `2^64`. -/
theorem roundUpPow2_spec (n : Nat) (h : n ≤ 2 ^ 63) :
    ∃ j, roundUpPow2 n = 2 ^ j ∧ n ≤ 2 ^ j ∧ (j = 0 ∨ 2 ^ (j - 1) < n) := by
  obtain ⟨j, _, he, hle, hor⟩ := roundUpPow2Aux_spec 64 0 n (Nat.le_trans h (by decide))
  exact ⟨j, he, hle, hor⟩

/-- `o`, the last conjunct of `roundUpPow2_spec`, is minimality -/
theorem pow2_exp_le {j m n : Nat} (o : j = 0 ∨ 2 ^ (j - 1) < n) (h : n ≤ 2 ^ m) : j ≤ m := by
  rcases o with rfl | o
  · exact Nat.zero_le m
  · exact Nat.le_of_pred_lt ((Nat.pow_lt_pow_iff_right (by decide)).1 (Nat.lt_of_lt_of_le o h))

theorem le_roundUpPow2Aux (fuel r input : Nat) : r ≤ roundUpPow2Aux fuel r input := by
  induction fuel generalizing r with
  | zero => exact Nat.le_refl r
  | succ fuel ih =>
    rw [roundUpPow2Aux]
    split
    · exact Nat.le_trans (Nat.le_mul_of_pos_right r (by decide)) (ih (r * 2))
    · exact Nat.le_refl r

theorem roundUpPow2_pos (n : Nat) : 1 ≤ roundUpPow2 n := le_roundUpPow2Aux 64 1 n

theorem pow2_dvd_of_le {a b : Nat} (ha : Nat.isPowerOfTwo a) (hb : Nat.isPowerOfTwo b) (h : a ≤ b) : a ∣ b := by
  obtain ⟨i, rfl⟩ := ha
  obtain ⟨j, rfl⟩ := hb
  exact Nat.pow_dvd_pow 2 ((Nat.pow_le_pow_iff_right (by decide)).mp h)

/-! Ceiling division, written `(n + k - 1) / k` as in `Spec.ceilDiv`. -/

theorem ceilDiv_le_self (n k : Nat) (hk : 0 < k) : (n + k - 1) / k ≤ n :=
  (Nat.le_mul_iff_le_left hk).1 (Nat.le_mul_of_pos_right n hk)

theorem ceilDiv_eq {n a k : Nat} (lo : a * k < n + k) (hi : n ≤ a * k) : (n + k - 1) / k = a :=
  Nat.div_eq_of_lt_le (by omega) (by rw [Nat.add_mul]; omega)

/-- the Go spelling `q := n / k; if n % k > 0 { q++ }` -/
theorem ceilDiv_if (n k : Nat) (hk : 0 < k) : (if n % k > 0 then n / k + 1 else n / k) = (n + k - 1) / k := by
  have hd := Nat.div_add_mod n k
  have hm := Nat.mod_lt n hk
  rw [Nat.mul_comm] at hd
  symm
  split
  · exact ceilDiv_eq (by rw [Nat.add_mul, Nat.one_mul]; omega) (by rw [Nat.add_mul]; omega)
  · exact ceilDiv_eq (by omega) (by omega)

theorem roundUpByMultipleOf_spec (c v : Nat) (hv : 0 < v) :
    v ∣ roundUpByMultipleOf c v ∧ c ≤ roundUpByMultipleOf c v ∧ roundUpByMultipleOf c v < c + v := by
  unfold roundUpByMultipleOf
  by_cases h : c % v = 0
  · rw [if_pos h]
    exact ⟨Nat.dvd_of_mod_eq_zero h, Nat.le_refl _, Nat.lt_add_of_pos_right hv⟩
  · rw [if_neg h, Nat.add_mul, Nat.one_mul, Nat.mul_comm]
    have hdm := Nat.div_add_mod c v
    have hlt := Nat.mod_lt c hv
    exact ⟨Nat.dvd_add (Nat.dvd_mul_right ..) (Nat.dvd_refl v), by omega, by omega⟩

theorem roundUpByMultipleOf_least (c v m : Nat) (hv : 0 < v) (hd : v ∣ m) (hc : c ≤ m) :
    roundUpByMultipleOf c v ≤ m := by
  obtain ⟨hdvd, _, hlt⟩ := roundUpByMultipleOf_spec c v hv
  obtain ⟨a, rfl⟩ := hd
  obtain ⟨b, hb⟩ := hdvd
  rw [hb] at hlt ⊢
  apply Nat.mul_le_mul_left
  -- v * b < c + v ≤ v * a + v = v * (a + 1)
  exact Nat.le_of_lt_succ (Nat.lt_of_mul_lt_mul_left (Nat.lt_of_lt_of_le hlt (Nat.add_le_add_right hc v)))

theorem subTreeWidth_pos (n thr : Nat) : 0 < subTreeWidth n thr :=
  Nat.lt_min.2 ⟨roundUpPow2_pos _, roundUpPow2_pos _⟩

theorem le_nextShareIndex (cur n thr : Nat) : cur ≤ nextShareIndex cur n thr :=
  (roundUpByMultipleOf_spec cur _ (subTreeWidth_pos n thr)).2.1

theorem nextShareIndex_aligned (cur n thr : Nat) : nextShareIndex cur n thr % subTreeWidth n thr = 0 :=
  Nat.mod_eq_zero_of_dvd (roundUpByMultipleOf_spec cur _ (subTreeWidth_pos n thr)).1

theorem padding_le (cur n thr : Nat) : nextShareIndex cur n thr - cur ≤ subTreeWidth n thr - 1 := by
  obtain ⟨_, h1, h2⟩ := roundUpByMultipleOf_spec cur _ (subTreeWidth_pos n thr)
  exact Nat.le_sub_one_of_lt (Nat.sub_lt_left_of_lt_add h1 h2)

end GoSquare
