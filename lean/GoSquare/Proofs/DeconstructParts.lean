import GoSquare.Proofs.C20Core
import GoSquare.Properties.C10
import GoSquare.Proofs.SquareWF
import GoSquare.Model.Builder
/-! On a square `txS ++ pfbS ++ R` (tx-namespace shares, pay-for-blob-namespace shares, then shares
    of strictly larger namespaces) `square.Deconstruct` reduces to parsing the two compact runs and
    rebuilding the blob transactions from the wrapped PFBs (C02, first step), and
    `Square.WrappedPFBs` to parsing the second run (C04). -/
namespace GoSquare
open Spec

theorem squareIsEmpty_eq (s : List Bytes) : squareIsEmpty s = (s == [paddingShare tailPaddingNamespace 0]) := by
  unfold squareIsEmpty
  rw [emptySquare_eq]

theorem deconstruct_empty (pfbDec : Bytes → Res (List Nat)) :
    deconstruct [paddingShare tailPaddingNamespace 0] pfbDec = .ok [] := by
  unfold deconstruct
  rw [squareIsEmpty_eq, beq_self_eq_true, if_pos rfl]

theorem squareIsEmpty_false {l : List Bytes} {a : Bytes} (ha : a ∈ l) (h : Share.ns a ≠ tailPaddingNamespace) :
    squareIsEmpty l = false := by
  rw [squareIsEmpty_eq, beq_eq_false_iff_ne]
  rintro rfl
  exact h (List.mem_singleton.mp ha ▸ (paddingShare_wf tailPaddingNamespace 0 (by decide)).2)

theorem above_tx_of_above_pfb (n : Bytes) (h : cmpBytes n payForBlobNamespace = 1) :
    cmpBytes n txNamespace = 1 := by
  have h1 : payForBlobNamespace < n := (cmpBytes_gt_iff _ _).mp h
  have h2 : txNamespace < payForBlobNamespace :=
    (cmpBytes_gt_iff _ _).mp (by decide : cmpBytes payForBlobNamespace txNamespace = 1)
  exact (cmpBytes_gt_iff _ _).mpr (List.lt_trans h2 h1)

/-- **C02 (step).** On tx-namespace shares `txS`, pay-for-blob shares `pfbS` and shares `R` of larger
    namespaces, not both of the first two empty, `Deconstruct` parses `txS` and, if `pfbS ≠ []`,
    parses it and rebuilds the blob transactions from the wrappers. -/
theorem deconstruct_parts (txS pfbS R : List Bytes) (pfbDec : Bytes → Res (List Nat))
    (h1 : ∀ s ∈ txS, Share.ns s = txNamespace)
    (h2 : ∀ s ∈ pfbS, Share.ns s = payForBlobNamespace)
    (h3 : ∀ s ∈ R, cmpBytes (Share.ns s) payForBlobNamespace = 1)
    (hne : ¬ (txS = [] ∧ pfbS = [])) :
    deconstruct (txS ++ pfbS ++ R) pfbDec =
      (if pfbS = [] then parseTxs txS
       else do
        let txs ← parseTxs txS
        let wpfbs ← parseTxs pfbS
        let blobTxs ← deconstructPfbs (txS ++ pfbS ++ R) pfbDec wpfbs
        .ok (txs ++ blobTxs)) := by
  have hE : squareIsEmpty (txS ++ pfbS ++ R) = false := by
    cases txS with
    | cons a l => exact squareIsEmpty_false (a := a) (by simp) (by rw [h1 a (by simp)]; decide)
    | nil =>
      cases pfbS with
      | cons a l => exact squareIsEmpty_false (a := a) (by simp) (by rw [h2 a (by simp)]; decide)
      | nil => exact absurd ⟨rfl, rfl⟩ hne
  have hTx : getShareRangeForNamespace (txS ++ (pfbS ++ R)) txNamespace = (0, txS.length) :=
    C20.lookup_leading_run _ _ _ h1 (fun s hs => by
      rcases List.mem_append.mp hs with hs | hs
      · rw [h2 s hs]; decide
      · exact above_tx_of_above_pfb _ (h3 s hs))
  have hW := C20.lookup_leading_run _ _ _ h2 h3
  unfold deconstruct
  rw [hE, List.append_assoc, hTx]
  simp only [Bool.false_eq_true, if_false]
  rw [sliceFrom_append, slice_prefix]
  rw [if_neg (fun h => h rfl)]
  simp only [res_bind_ok, hW]
  by_cases hp : pfbS = []
  · rw [if_pos hp, if_pos ⟨trivial, by rw [hp]; rfl⟩]
  · rw [if_neg hp, if_neg (fun h => hp (List.eq_nil_of_length_eq_zero h.2)), Nat.zero_add,
      Nat.add_comm, slice_inner]
    rfl

theorem wrappedPFBs_parts (txS pfbS R : List Bytes)
    (h1 : ∀ s ∈ txS, Share.ns s = txNamespace) (h2 : ∀ s ∈ pfbS, Share.ns s = payForBlobNamespace)
    (h3 : ∀ s ∈ R, cmpBytes (Share.ns s) payForBlobNamespace = 1) (hne : pfbS ≠ []) :
    wrappedPFBs (txS ++ pfbS ++ R) = parseTxs pfbS := by
  have hl := C20.lookup_returns_the_run payForBlobNamespace txS pfbS R
    (fun s hs => by unfold C20.below; rw [h1 s hs]; decide) h2 h3
  rw [if_neg hne] at hl
  unfold wrappedPFBs
  rw [hl]
  simp only
  have hpos : 0 < pfbS.length := List.length_pos_iff.mpr hne
  rw [if_neg (by omega)]
  rw [List.append_assoc, slice_inner]
  rfl

end GoSquare
