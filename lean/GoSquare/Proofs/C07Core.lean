import GoSquare.Proofs.BuildLoop
import GoSquare.Properties.C15
import GoSquare.Spec.Layout
import GoSquare.Proofs.ExportKept
/-! # C07 — the accept/refuse rule, the estimate and the side are those of the specified layout function

The independent closed-form `Spec.estimate` (written from the layout rules, not from the code)
equals the builder's running estimate, so `Build` keeps exactly the transactions `Spec.select`
keeps; and the side is `Spec.minSide` of that estimate. That the laid-out shares are those of
`Spec.layout` is Proofs/SpecLayout.lean. -/
namespace GoSquare.C07

theorem leastPow2GeAux_eq : ∀ (fuel p n : Nat), Spec.leastPow2GeAux fuel p n = roundUpPow2Aux fuel p n
  | 0, _, _ => rfl
  | fuel + 1, p, n => by
    rw [Spec.leastPow2GeAux, roundUpPow2Aux, leastPow2GeAux_eq fuel, Nat.mul_comm]
    by_cases h : n ≤ p
    · rw [if_pos h, if_neg (Nat.not_lt.mpr h)]
    · rw [if_neg h, if_pos (Nat.lt_of_not_le h)]

/-- any fuel that reaches `m` gives what the 64 rounds of `RoundUpPowerOfTwo` give -/
theorem leastPow2GeAux_fuel (fuel m : Nat) (hf : m ≤ 2 ^ fuel) (h : m ≤ 2 ^ 63) :
    Spec.leastPow2GeAux fuel 1 m = roundUpPow2 m := by
  obtain ⟨j1, _, e1, h1, o1⟩ := roundUpPow2Aux_spec fuel 0 m (by rwa [Nat.zero_add])
  obtain ⟨j2, e2, h2, o2⟩ := roundUpPow2_spec m h
  rw [leastPow2GeAux_eq, e1, e2, Nat.le_antisymm (pow2_exp_le o1 h2) (pow2_exp_le o2 h1)]

theorem leastPow2Ge_eq (n : Nat) (h : n ≤ 2 ^ 63) : Spec.leastPow2Ge n = roundUpPow2 n :=
  leastPow2GeAux_fuel n n (Nat.le_of_lt Nat.lt_two_pow_self) h

/-- `BlobMinSquareSize` rounds `⌈√n⌉` up to a power of two -/
theorem minSideAux_eq (n : Nat) : ∀ (fuel s : Nat),
    Spec.minSideAux fuel s n = Spec.leastPow2GeAux fuel s (ceilSqrt n)
  | 0, _ => rfl
  | fuel + 1, s => by
    rw [Spec.minSideAux, Spec.leastPow2GeAux, minSideAux_eq n fuel]
    simp only [ceilSqrt_le_iff]

/-- (C07) includes the floating-point computation of `BlobMinSquareSize` -/
theorem minSide_eq (n : Nat) (h1 : 1 ≤ n) (h : n ≤ 2 ^ 52) : Spec.minSide n = blobMinSquareSize n := by
  have _ := h1 -- `h1` is part of the property's statement; the proof does not need it
  have hn : ceilSqrt n ≤ 2 ^ n :=
    Nat.le_trans ((ceilSqrt_le_iff n n).2 (Nat.le_mul_self n)) (Nat.le_of_lt Nat.lt_two_pow_self)
  rw [Spec.minSide, minSideAux_eq, blobMinSquareSize, ceilSqrtF64_f64OfNat n h]
  exact leastPow2GeAux_fuel n _ hn (ceilSqrt_le n h)

theorem subTreeWidth_eq (n thr : Nat) (hn : 1 ≤ n) (hn52 : n ≤ 2 ^ 52) (ht : 1 ≤ thr) :
    Spec.subTreeWidth n thr = subTreeWidth n thr := by
  obtain ⟨_, _, hs, _⟩ := C15.subTreeWidth_spec n thr hn hn52 ht
  have hsb : (n + thr - 1) / thr ≤ 2 ^ 63 :=
    Nat.le_trans (ceilDiv_le_self n thr ht) (Nat.le_trans hn52 (by decide))
  rw [hs, Spec.subTreeWidth, Spec.ceilDiv, leastPow2Ge_eq _ hsb, minSide_eq n hn hn52]

def BlobOK (b : Blob) : Prop := 1 ≤ b.data.length ∧ b.data.length < 4294967296 ∧ (b.ver = 0 ∨ b.ver = 1)

/-- the Spec's share count in one division, the form in which `SparseSharesNeeded` is known -/
theorem blobShares_closed (b : Blob) :
    Spec.blobShares b = (b.data.length + if b.ver = 1 then 505 else 485) / 482 := by
  -- `c` bytes fit the first share: `1 + ⌈(len - c) / 482⌉ = (len + d) / 482` with `d = 481 + 482 - c`
  have key : ∀ c d : Nat, c + d = 963 → 482 ≤ d →
      (if b.data.length ≤ c then 1 else 1 + (b.data.length - c + 482 - 1) / 482) = (b.data.length + d) / 482 := by
    intro c d hcd hd
    split
    · exact (Nat.div_eq_of_lt_le (by omega) (by omega)).symm
    · rw [Nat.add_comm 1]
      omega
  unfold Spec.blobShares Spec.ceilDiv
  split
  · exact key 458 505 rfl (by decide)
  · exact key 478 485 rfl (by decide)

theorem blobShares_eq (b : Blob) (h : BlobOK b) :
    Spec.blobShares b = sparseSharesNeededWithSigner (u32 b.data.length) (b.ver == 1) := by
  obtain ⟨h1, h2, _⟩ := h
  rw [u32_of_lt h2, sparseSharesNeededWithSigner_eq, if_neg (by omega : ¬ b.data.length = 0), blobShares_closed b]
  simp only [beq_iff_eq]

theorem blobShares_bounds (b : Blob) (h : BlobOK b) : 1 ≤ Spec.blobShares b ∧ Spec.blobShares b ≤ 2 ^ 52 := by
  obtain ⟨h1, h2, _⟩ := h
  rw [blobShares_closed b]
  split <;> omega

theorem reservation_eq_spec (thr : Nat) (ht : 1 ≤ thr) (b : Blob) (h : BlobOK b) :
    Spec.blobShares b + (Spec.subTreeWidth (Spec.blobShares b) thr - 1) = reservation thr b := by
  obtain ⟨hb1, hb2⟩ := blobShares_bounds b h
  rw [subTreeWidth_eq _ thr hb1 hb2 ht]
  unfold reservation newElement Element.maxShareOffset
  rw [← blobShares_eq b h]

def toB (p : Spec.PTx) : BlobTx := { tx := p.tx, blobs := p.blobs }

theorem worstWrapLen_eq (p : Spec.PTx) : Spec.worstWrapLen p = worstLen (toB p) := rfl

theorem spec_unitBytes (n : Nat) : Spec.unitBytes n = unitBytes n := Nat.add_comm _ _

theorem worstStart_eq (N : List Bytes) (P : List Spec.PTx) :
    Spec.compactCount ((N.map (fun t => Spec.unitBytes t.length)).sum) +
      Spec.compactCount ((P.map (fun p => Spec.unitBytes (Spec.worstWrapLen p))).sum) =
    startOf N (P.map toB) := by
  unfold startOf txShareCount pfbShareCount
  simp only [compactCount_eq_sizeOf, spec_unitBytes, List.map_map]
  rfl

/-- **C07 (estimate).** The independent closed-form `Spec.estimate` equals the builder's estimate
    `closedEstimate`, for `thr ≥ 1` and blobs that are non-empty, below 2^32 bytes, of share
    version 0 or 1 (`BlobOK`). -/
theorem estimate_eq (thr : Nat) (ht : 1 ≤ thr) (N : List Bytes) (P : List Spec.PTx)
    (hok : ∀ p ∈ P, ∀ b ∈ p.blobs, BlobOK b) :
    Spec.estimate thr N P = closedEstimate thr N (P.map toB) := by
  unfold Spec.estimate
  rw [worstStart_eq]
  congr 1
  rw [List.map_map]
  congr 1
  exact List.map_congr_left (fun p hp => congrArg List.sum (List.map_congr_left
    (fun b hb => reservation_eq_spec thr ht b (hok p hp b hb))))

def toP (dec : Bytes → Decoded) (r : Bytes) : Spec.PTx := { raw := r, tx := (decB dec r).tx, blobs := (decB dec r).blobs }

theorem toB_toP (dec : Bytes → Decoded) (bl : List Bytes) : (bl.map (toP dec)).map toB = bl.map (decB dec) := by
  rw [List.map_map]; apply List.map_congr_left; intro r _; rfl

theorem map_raw_toP (dec : Bytes → Decoded) (bl : List Bytes) : (bl.map (toP dec)).map (·.raw) = bl := by
  rw [List.map_map]
  exact (List.map_congr_left (fun r _ => rfl)).trans (List.map_id' bl)

/-- `share.NewBlob` rejects empty data and unknown share versions; sizes are below 2^32 -/
def DecOK (dec : Bytes → Decoded) : Prop := ∀ t bt, dec t = .blobTx bt → ∀ b ∈ bt.blobs, BlobOK b

theorem toP_ok {P : Blob → Prop} (dec : Bytes → Decoded) (hdec : ∀ t bt, dec t = .blobTx bt → ∀ b ∈ bt.blobs, P b)
    (bl : List Bytes) (hb : ∀ r ∈ bl, dec r = .blobTx (decB dec r)) :
    ∀ p ∈ bl.map (toP dec), ∀ b ∈ p.blobs, P b :=
  List.forall_mem_map.mpr (List.forall_mem_map.mp (kept_blobs hdec hb))

theorem estimate_kept {dec : Bytes → Decoded} (hdec : DecOK dec) {thr : Nat} (ht : 1 ≤ thr) (n : List Bytes)
    {bl : List Bytes} (hb : ∀ r ∈ bl, dec r = .blobTx (decB dec r)) :
    Spec.estimate thr n (bl.map (toP dec)) = closedEstimate thr n (bl.map (decB dec)) := by
  rw [estimate_eq thr ht _ _ (toP_ok dec hdec bl hb), toB_toP]

/-- **C07 (selection).** From any builder state that has `Kept` its transactions, the loop of `Build`
    keeps exactly what the greedy rule `Spec.select` keeps; premises `DecOK dec`, `thr ≥ 1`. -/
theorem select_eq (dec : Bytes → Decoded) (hdec : DecOK dec) (thr : Nat) (ht : 1 ≤ thr) :
    ∀ (txs : List Bytes) (b : Builder) (n bl : List Bytes) (b' : Builder) (n' bl' : List Bytes),
    Kept b n (bl.map (decB dec)) → b.thr = thr → (∀ r ∈ bl, dec r = .blobTx (decB dec r)) →
    buildLoop dec txs b n bl = .ok (b', n', bl') →
    Spec.select dec b.maxSquareSize thr txs n (bl.map (toP dec)) = some (n', bl'.map (toP dec)) := by
  intro txs
  induction txs with
  | nil =>
    intro b n bl b' n' bl' _ _ _ h
    cases h
    rfl
  | cons t rest ih =>
    intro b n bl b' n' bl' hk hthr hb h
    rw [buildLoop] at h
    rw [Spec.select]
    cases hd : dec t with
    | badBlobTx => rw [hd] at h; cases h
    | normal =>
      rw [hd] at h
      have hiff : (b.appendTx t).2 = true ↔
          Spec.estimate thr (n ++ [t]) (bl.map (toP dec)) ≤ b.maxSquareSize * b.maxSquareSize := by
        rw [estimate_kept hdec ht _ hb, ← hthr]
        exact (appendTx_spec b n _ t hk).1
      have := ih _ _ _ _ _ _ (hk.appendTx t) ((Builder.appendTx_thr b t).trans hthr) hb h
      rw [Builder.appendTx_max] at this
      by_cases hc : Spec.estimate thr (n ++ [t]) (bl.map (toP dec)) ≤ b.maxSquareSize * b.maxSquareSize
      · rw [if_pos hc]; rwa [if_pos (hiff.mpr hc)] at this
      · rw [if_neg hc]; rwa [if_neg (fun ha => hc (hiff.mp ha))] at this
    | blobTx bt =>
      rw [hd] at h
      obtain ⟨rfl, hk1, hb1⟩ := hk.appendBlobTx_dec hb hd
      have hbt : ∀ r ∈ bl ++ [t], dec r = .blobTx (decB dec r) := fun _ => mem_ite_snoc (c := true) hb hd
      have hiff : (b.appendBlobTx (decB dec t)).2 = true ↔
          Spec.estimate thr n ((bl ++ [t]).map (toP dec)) ≤ b.maxSquareSize * b.maxSquareSize := by
        rw [estimate_kept hdec ht _ hbt, List.map_append, ← hthr]
        exact (appendBlobTx_spec b n _ _ hk).1
      have := ih _ _ _ _ _ _ hk1 ((Builder.appendBlobTx_thr b _).trans hthr) hb1 h
      rw [Builder.appendBlobTx_max] at this
      have hq : bl.map (toP dec) ++ [({ raw := t, tx := (decB dec t).tx, blobs := (decB dec t).blobs } : Spec.PTx)] =
          (bl ++ [t]).map (toP dec) := by
        rw [List.map_append, List.map_singleton, toP]
      simp only [hq]
      by_cases hc : Spec.estimate thr n ((bl ++ [t]).map (toP dec)) ≤ b.maxSquareSize * b.maxSquareSize
      · rw [if_pos hc]; rwa [if_pos (hiff.mpr hc)] at this
      · rw [if_neg hc]; rwa [if_neg (fun ha => hc (hiff.mp ha))] at this

theorem select_of_loop {dec : Bytes → Decoded} (hdec : DecOK dec) {max thr : Nat} (ht : 1 ≤ thr) {txs : List Bytes}
    {b0 b : Builder} {n bl : List Bytes} (hnew : Builder.new max thr = .ok b0)
    (hloop : buildLoop dec txs b0 [] [] = .ok (b, n, bl)) :
    Spec.select dec max thr txs [] [] = some (n, bl.map (toP dec)) := by
  obtain ⟨hk0, ht0, hm0⟩ := kept_new max thr b0 hnew
  have := select_eq dec hdec thr ht txs b0 [] [] b n bl hk0 ht0 nofun hloop
  rwa [hm0] at this

/-- **C07 (selection, estimate, side).** The contents of the shares are the subject of
    `C07.build_is_the_specified_layout`. -/
theorem build_selection_and_side (dec : Bytes → Decoded) (hdec : DecOK dec) (txs : List Bytes) (max thr : Nat)
    (ht : 1 ≤ thr) (hmax : max * max ≤ 2 ^ 52) (sq kept : List Bytes)
    (h : build dec txs max thr = .ok (sq, kept)) :
    ∃ n P, Spec.select dec max thr txs [] [] = some (n, P) ∧ kept = n ++ P.map (·.raw) ∧
      Spec.estimate thr n P ≤ max * max ∧
      sq.length = if n = [] ∧ P = [] then 1
        else Spec.minSide (Spec.estimate thr n P) * Spec.minSide (Spec.estimate thr n P) := by
  obtain ⟨b0, b, n, bl, b2, hnew, hloop, hexp, rfl, hk, _, _⟩ := build_ok h
  have hest := estimate_kept hdec ht n hk.blobTx
  refine ⟨n, bl.map (toP dec), select_of_loop hdec ht hnew hloop, by rw [map_raw_toP], by rw [hest]; exact hk.fit, ?_⟩
  -- `Export` returns one share, or the square of the side of the running estimate
  obtain ⟨⟨upd, sq'⟩, hcore, hrest⟩ := res_bind_ok' hexp
  obtain rfl : sq' = sq := by cases upd <;> exact (Prod.mk.inj (Except.ok.inj hrest)).2
  rw [hk.kept.exportCore_eq, hk.thr] at hcore
  rw [exportCore_length _ _ _ _ _ _ _ _ _ hcore, Int.toNat_natCast, hest]
  simp only [txShareCount_eq_zero, pfbShareCount_eq_zero, List.map_eq_nil_iff]
  by_cases hne : n = [] ∧ bl = []
  · rw [if_pos hne, if_pos hne]
  · rw [if_neg hne, if_neg hne, minSide_eq _ (closedEstimate_pos thr n _ (by simpa using hne))
      (Nat.le_trans hk.fit hmax)]

/-- non-vacuity: a decoder with `DecOK`, and one concrete `Build` -/
example : DecOK (fun _ => Decoded.normal) := by intro t bt h; cases h
example : (match build (fun _ => .normal) [[1, 2, 3]] 4 64 with
    | .ok r => r.2 == [[1, 2, 3]] && r.1.length == 1 | .error _ => false) = true := by decide +kernel
end GoSquare.C07
