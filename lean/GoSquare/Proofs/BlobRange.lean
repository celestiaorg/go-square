import GoSquare.Proofs.C04Core
/-! C04, last clause: `square.BlobShareRange` returns exactly the recorded start index of the blob
    and the end of the blob's own shares. -/
namespace GoSquare
open Builder Spec

/-- position `p` behind `n` transactions, as the Go `int` the blob queries take and turn back -/
theorem toNat_natCast_add_sub (n p : Nat) : (((n + p : Nat) : Int) - (n : Int)).toNat = p := by
  rw [Int.natCast_add, Int.add_comm, Int.add_sub_cancel, Int.toNat_natCast]

theorem Builder.findBlobStartingIndex_nat (b b' : Builder) (he : b.ensureExported = .ok b') {n p : Nat}
    (hn : b.txs.length = n) (hp : p < b.pfbs.length) (j : Nat) :
    b.findBlobStartingIndex ((n + p : Nat) : Int) (j : Int) =
      match b'.pfbs[p]? with
      | none => .error .panic
      | some iw =>
        match iw.shareIndexes[j]? with
        | none => .error .err
        | some v => .ok (b', v) := by
  unfold Builder.findBlobStartingIndex
  simp only [hn, toNat_natCast_add_sub]
  rw [if_neg (Int.not_lt.mpr (Int.ofNat_le.mpr (Nat.le_add_right n p))), if_neg (Nat.not_le.mpr hp), he]
  rfl

theorem Builder.blobShareLength_nat (b : Builder) {n p : Nat} (hn : b.txs.length = n) (hp : p < b.pfbs.length)
    (j : Nat) :
    b.blobShareLength ((n + p : Nat) : Int) (j : Int) =
      match b.blobs.find? (fun e => e.pfbIndex == p && e.blobIndex == j) with
      | none => .error .err
      | some e => .ok e.numShares := by
  unfold Builder.blobShareLength
  simp only [hn, toNat_natCast_add_sub]
  rw [if_neg (Int.not_lt.mpr (Int.ofNat_le.mpr (Nat.le_add_right n p))), if_neg (Nat.not_le.mpr hp)]
  rfl

/-- (C04) `txIndex = N.length + p`: the blob transactions follow the ordinary ones in the input list. -/
theorem blobShareRange_spec (dec : Bytes → Decoded) (hdec : DecValid dec) (txs : List Bytes) (max thr : Nat)
    (hsz : 478 * (max * max) < 4294967296) (b0 : Builder) (hb0 : Builder.newWithTxs dec max thr txs = .ok b0) :
    ∃ N bl, txs = N ++ bl ∧ (∀ r ∈ N, dec r = .normal) ∧ (∀ r ∈ bl, dec r = .blobTx (decB dec r)) ∧
      ∀ (p j : Nat) (raw : Bytes) (blob : Blob), bl[p]? = some raw → (decB dec raw).blobs[j]? = some blob →
        ∀ (sq : List Bytes) (b1 : Builder), b0.exportSquare = .ok (b1, sq) →
        ∃ k idx, C04.Placed thr N (bl.map (decB dec)) k (newElement blob p j thr) idx ∧
          blobShareRange dec txs ((N.length + p : Nat) : Int) ((j : Nat) : Int) max thr =
            .ok (u32 idx, u32 idx + (sparseSeq blob).length) := by
  obtain ⟨_, N, bl, _, _, e, ⟨hk, rfl, rfl, hn, hbl⟩, hdone⟩ := newWithTxs_ok hb0
  refine ⟨N, bl, e, hn, hbl, fun p j raw blob hp hj sq b1 hexp => ?_⟩
  have hB := decB_getElem? dec hp
  obtain ⟨k, idx, iw, hpl, r1, _, _, _, r6⟩ := C04.index_recorded b0.thr N (bl.map (decB dec)) p j _ blob hB hj
  refine ⟨k, idx, hpl, ?_⟩
  have hv := kept_blobs hdec hbl
  obtain ⟨g3, g2, g1⟩ := hk.exported hv hsz hexp
  have hplt : p < bl.length := (List.getElem?_eq_some_iff.mp hp).1
  have hp0 : p < b0.pfbs.length := by rw [hk.pfbs, List.length_map, List.length_map]; exact hplt
  have hp1 : p < b1.pfbs.length := by rw [g2, patched_length, List.length_map]; exact hplt
  have hmem : newElement blob p j b0.thr ∈ sortedElems b0.thr (bl.map (decB dec)) := List.mem_of_getElem? hpl.1
  have hf : (sortedElems b0.thr (bl.map (decB dec))).find? (fun x => x.pfbIndex == p && x.blobIndex == j) =
      some (newElement blob p j b0.thr) := find?_keys (·.pfbIndex) (·.blobIndex) (sortedElems_keys _ _) hmem
  unfold blobShareRange
  rw [hb0, res_bind_ok,
    b0.findBlobStartingIndex_nat b1 (ensureExported_of_export b0 b1 sq hdone hexp).1 (congrArg _ hk.txs) hp0,
    g2, r1]
  simp only [r6, res_bind_ok]
  rw [b1.blobShareLength_nat (congrArg _ g3) hp1, g1, hf]
  exact congrArg (fun n => Except.ok (u32 idx, u32 idx + n)) (eok_sortedElems _ _ hv _ hmem).2

end GoSquare
