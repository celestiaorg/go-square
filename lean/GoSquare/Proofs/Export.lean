import GoSquare.Proofs.BlobLoop
import GoSquare.Proofs.WriteSquare
import GoSquare.Proofs.Compact
/-! `Export`: what a successful call went through, and, for a builder holding valid elements, when
    it succeeds and the square in closed form:
    tx shares ‖ pfb shares ‖ reserved padding ‖ blob region ‖ tail padding. -/
namespace GoSquare
open Builder Spec

theorem exportCore_ok {thr : Nat} {cs : Int} {txs : List Bytes} {pfbs : List Proto.IndexWrapper}
    {blobs : List Element} {txSize pfbSize : Nat} {upd : Option (List Element × List Proto.IndexWrapper)}
    {sq : List Bytes} (h : exportCore thr cs txs pfbs blobs txSize pfbSize = .ok (upd, sq)) :
    (txSize = 0 ∧ pfbSize = 0 ∧ upd = none ∧ emptySquare = .ok sq) ∨
    (¬ (txSize = 0 ∧ pfbSize = 0) ∧ ∃ st txW pfbW,
      blobLoop thr (blobs.mergeSort elemLe) 0 ⟨txSize + pfbSize, txSize + pfbSize, txSize + pfbSize, pfbs, []⟩ = .ok st ∧
      upd = some (blobs.mergeSort elemLe, st.pfbs) ∧
      writeSquare txW pfbW st.shares st.nonReservedStart (blobMinSquareSize cs.toNat) = .ok sq) := by
  unfold exportCore at h
  by_cases hz : txSize = 0 ∧ pfbSize = 0
  · obtain ⟨rfl, rfl⟩ := hz
    obtain ⟨s, he, h⟩ := res_bind_ok' h
    cases h
    exact Or.inl ⟨rfl, rfl, rfl, he⟩
  · rw [if_neg (by simpa using hz)] at h
    obtain ⟨_, _, h⟩ := res_bind_ok' h
    obtain ⟨txW, _, h⟩ := res_bind_ok' h
    obtain ⟨st, hloop, h⟩ := res_bind_ok' h
    obtain ⟨_, _, h⟩ := res_bind_ok' h
    obtain ⟨pfbW, _, h⟩ := res_bind_ok' h
    obtain ⟨sq', hw, h⟩ := res_bind_ok' (ok_of_guard h)
    cases h
    exact Or.inr ⟨hz, st, txW, pfbW, hloop, rfl, hw⟩

theorem exportCore_empty (thr : Nat) (cs : Int) (txs : List Bytes) (pfbs : List Proto.IndexWrapper)
    (blobs : List Element) :
    Builder.exportCore thr cs txs pfbs blobs 0 0 = .ok (none, [Spec.paddingShare tailPaddingNamespace 0]) := by
  unfold Builder.exportCore
  rw [emptySquare_eq]
  rfl

/-- (C07) `Export` returns one share for an empty builder and otherwise side² shares, the side being
    `BlobMinSquareSize` of the running estimate -/
theorem exportCore_length (thr : Nat) (cs : Int) (txs : List Bytes) (pfbs : List Proto.IndexWrapper)
    (blobs : List Element) (txSize pfbSize : Nat) (upd : Option (List Element × List Proto.IndexWrapper))
    (sq : List Bytes) (h : exportCore thr cs txs pfbs blobs txSize pfbSize = .ok (upd, sq)) :
    sq.length = if txSize = 0 ∧ pfbSize = 0 then 1
      else blobMinSquareSize cs.toNat * blobMinSquareSize cs.toNat := by
  rcases exportCore_ok h with ⟨h1, h2, _, he⟩ | ⟨hz, _, _, _, _, _, hw⟩
  · rw [emptySquare_eq] at he
    cases he
    exact (if_pos ⟨h1, h2⟩).symm
  · rw [if_neg hz]; exact writeSquare_length _ _ _ _ _ _ hw

theorem compact_writer (ns : Bytes) (hc : CompactNs ns) (units : List Bytes) :
    ∃ c0 c, CompactSplitter.new ns 0 = .ok c0 ∧ units.foldlM (fun w t => w.writeTx t) c0 = .ok c ∧
      c.count = (compactSeq ns units).length ∧
      (478 * (compactSeq ns units).length < 4294967296 → ∃ tw, c.exportShares = .ok (tw, compactSeq ns units)) := by
  obtain ⟨c0, c, hnew, hw, hN⟩ := writer_normal ns hc units
  refine ⟨c0, c, hnew, hw, by rw [count_spec ns _ hc c units hN, compactSeq_length], fun hlt => ?_⟩
  obtain ⟨c', _, hex, _⟩ := export_spec ns (zeros 4) hc c units hN rfl
    (stream_lt_of_shares ns units _ (Nat.le_refl _) hlt)
  exact ⟨c', hex⟩

/-- `hpfb0`: `WriteSquare` copies the reserved padding only when there is a blob share, so without
    blobs `nonReservedStart = txSize + pfbSize` has to be where the PFB shares end. The case is not
    empty: a blob transaction without blobs gives `pfbs ≠ []` with `blobs = []`. -/
theorem exportCore_ok_iff (thr : Nat) (cs : Int) (txs : List Bytes) (pfbs : List Proto.IndexWrapper)
    (blobs : List Element) (txSize pfbSize : Nat) (r : Option (List Element × List Proto.IndexWrapper) × List Bytes)
    (hne : ¬ (txSize = 0 ∧ pfbSize = 0))
    (hok : ∀ e ∈ blobs, EOK e)
    (htx : txSize = (compactSeq txNamespace txs).length)
    (hpfb0 : blobs = [] → pfbSize = (compactSeq payForBlobNamespace (pfbs.map (·.marshal))).length)
    (hsz1 : 478 * txSize < 4294967296) (hsz2 : 478 * pfbSize < 4294967296) :
    let sorted := blobs.mergeSort elemLe
    let start := txSize + pfbSize
    let pf := patchAll thr start sorted pfbs
    let txS := compactSeq txNamespace txs
    let pfbS := compactSeq payForBlobNamespace (pf.map (·.marshal))
    let reg := region thr start none sorted
    let first := firstIdx thr start sorted
    let ss := blobMinSquareSize cs.toNat
    exportCore thr cs txs pfbs blobs txSize pfbSize = .ok r ↔
      Placeable thr pfbs.length start sorted ∧
      pfbS.length ≤ pfbSize ∧ txS.length + pfbS.length ≤ first ∧ first + reg.length ≤ ss * ss ∧
      r = (some (sorted, pf), txS ++ pfbS ++
        List.replicate (first - (txS.length + pfbS.length)) (paddingShare primaryReservedPaddingNamespace 0) ++
        reg ++ List.replicate (ss * ss - (first + reg.length)) (paddingShare tailPaddingNamespace 0)) := by
  intro sorted start pf txS pfbS reg first ss
  obtain ⟨txW0, txW, hnew1, hw1, hcnt1, hx1⟩ := compact_writer txNamespace compactNs_tx txs
  obtain ⟨tw, hx1⟩ := hx1 (by rw [← htx]; exact hsz1)
  unfold exportCore
  rw [if_neg (by simpa using hne)]
  simp only [bind, Except.bind, hnew1, hw1]
  have hloop := fun st => blobLoop_start_ok_iff thr start sorted pfbs st (fun e he => hok e (List.mem_mergeSort.mp he))
  cases hl : blobLoop thr sorted 0 ⟨start, start, start, pfbs, []⟩ with
  | error e => exact ⟨nofun, fun h => nomatch hl ▸ (hloop _).mpr ⟨h.1, rfl⟩⟩
  | ok st =>
    obtain ⟨hp, rfl⟩ := (hloop st).mp hl
    obtain ⟨pfbW0, pfbW, hnew2, hw2, hcnt2, hx2⟩ :=
      compact_writer payForBlobNamespace compactNs_pfb ((patchAll thr start sorted pfbs).map (·.marshal))
    rw [List.foldlM_map] at hw2
    simp only [hnew2, hw2, hcnt2]
    by_cases hpf : pfbSize < pfbS.length
    · rw [if_pos hpf]; exact ⟨nofun, fun h => absurd h.2.1 (Nat.not_le.mpr hpf)⟩
    rw [if_neg hpf]
    obtain ⟨pw, hx2⟩ := hx2 (by show 478 * pfbS.length < _; omega)
    have hws := fun sq => writeSquare_ok_iff txW pfbW tw pw reg first ss sq txS pfbS hx1 hx2 hcnt1.symm hcnt2.symm
      fun hs => by
        have hb : blobs = [] := List.length_eq_zero_iff.mp
          ((List.length_mergeSort blobs).symm.trans (congrArg List.length ((region_nil_iff ..).mp hs)))
        rw [hcnt1, hcnt2, ← htx]
        show firstIdx thr start sorted =
          txSize + (compactSeq payForBlobNamespace ((patchAll thr start sorted pfbs).map (·.marshal))).length
        rw [(region_nil_iff ..).mp hs]
        exact congrArg (txSize + ·) (hpfb0 hb)
    rw [hcnt1, hcnt2] at hws
    cases hw : writeSquare txW pfbW reg first ss with
    | error e => exact ⟨nofun, fun h => nomatch hw ▸ (hws _).mpr ⟨h.2.2.1, h.2.2.2.1, rfl⟩⟩
    | ok sq =>
      obtain ⟨g1, g2, e⟩ := (hws sq).mp hw
      exact ⟨fun h => ⟨hp, Nat.le_of_not_lt hpf, g1, g2, e ▸ (Except.ok.inj h).symm⟩,
        fun h => congrArg Except.ok (e ▸ h.2.2.2.2.symm)⟩

/-- (C03) a successful `Export` of a non-empty builder with `EOK` elements and compact sizes `478·n < 2^32`
    returns the sorted blobs, the patched wrappers and the five-part square, and has passed its three checks -/
theorem exportCore_layout (thr : Nat) (cs : Int) (txs : List Bytes) (pfbs : List Proto.IndexWrapper)
    (blobs : List Element) (txSize pfbSize : Nat) (upd : Option (List Element × List Proto.IndexWrapper))
    (sq : List Bytes)
    (hne : ¬ (txSize = 0 ∧ pfbSize = 0))
    (hok : ∀ e ∈ blobs, EOK e)
    (htx : txSize = (compactSeq txNamespace txs).length)
    (hpfb0 : blobs = [] → pfbSize = (compactSeq payForBlobNamespace (pfbs.map (·.marshal))).length)
    (hsz1 : 478 * txSize < 4294967296) (hsz2 : 478 * pfbSize < 4294967296)
    (h : exportCore thr cs txs pfbs blobs txSize pfbSize = .ok (upd, sq)) :
    let sorted := blobs.mergeSort elemLe
    let start := txSize + pfbSize
    let pf := patchAll thr start sorted pfbs
    let txS := compactSeq txNamespace txs
    let pfbS := compactSeq payForBlobNamespace (pf.map (·.marshal))
    let reg := region thr start none sorted
    let ss := blobMinSquareSize cs.toNat
    upd = some (sorted, pf) ∧
    sq = txS ++ pfbS ++
      List.replicate (firstIdx thr start sorted - (txS.length + pfbS.length)) (paddingShare primaryReservedPaddingNamespace 0) ++
      reg ++
      List.replicate (ss * ss - (firstIdx thr start sorted + reg.length)) (paddingShare tailPaddingNamespace 0) ∧
    txS.length + pfbS.length ≤ firstIdx thr start sorted ∧ firstIdx thr start sorted + reg.length ≤ ss * ss ∧
    pfbS.length ≤ pfbSize := by
  obtain ⟨_, g0, g1, g2, e⟩ := (exportCore_ok_iff thr cs txs pfbs blobs txSize pfbSize _ hne hok htx hpfb0 hsz1 hsz2).mp h
  obtain ⟨rfl, rfl⟩ := Prod.mk.inj e
  exact ⟨rfl, rfl, g1, g2, g0⟩

end GoSquare
