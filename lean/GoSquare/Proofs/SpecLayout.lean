import GoSquare.Proofs.C07Core
import GoSquare.Proofs.StableSort
import GoSquare.Proofs.BuildSquare
import GoSquare.Proofs.C04Core
import GoSquare.Proofs.SquareParts
/-! # C07 — `Build` and `Construct` are the specified layout function, byte for byte

`Spec.layout`, the independent specification, equals the closed form `squareOf` that the builder
returns (`layout_eq_squareOf`): `Spec.place` and `Spec.blobRegion` step through the sorted blobs as
the builder's blob loop does (`placeIdx`, `region`), and the wrapped PFBs the specification builds
by looking indexes up by coordinates are the builder's in-place patched wrappers (`pfbs_eq`). -/
namespace GoSquare.SpecLayout
open Spec

theorem alignUp_eq (c w : Nat) (hw : 0 < w) : Spec.alignUp c w = roundUpByMultipleOf c w := by
  unfold Spec.alignUp Spec.ceilDiv roundUpByMultipleOf
  rw [← ceilDiv_if c w hw]
  by_cases h : c % w = 0
  · rw [if_pos h, if_neg (by omega), Nat.div_mul_cancel (Nat.dvd_of_mod_eq_zero h)]
  · rw [if_neg h, if_pos (by omega)]

theorem C07_toB_eq : C07.toB = StableSort.toB := rfl

theorem blob_toElem (thr : Nat) (x : Spec.PBlob) : (StableSort.toElem thr x).blob = x.blob := rfl

theorem numShares_toElem (thr : Nat) (x : Spec.PBlob) (h : C07.BlobOK x.blob) :
    Spec.blobShares x.blob = (StableSort.toElem thr x).numShares :=
  C07.blobShares_eq x.blob h

theorem place_cons (thr : Nat) (ht : 1 ≤ thr) (cur : Nat) (x : Spec.PBlob) (l : List Spec.PBlob)
    (h : C07.BlobOK x.blob) :
    Spec.place thr cur (x :: l) = (x, nextShareIndex cur (StableSort.toElem thr x).numShares thr) ::
      Spec.place thr (nextShareIndex cur (StableSort.toElem thr x).numShares thr +
        (StableSort.toElem thr x).numShares) l := by
  obtain ⟨h1, h2⟩ := C07.blobShares_bounds x.blob h
  rw [Spec.place, C07.subTreeWidth_eq _ thr h1 h2 ht, alignUp_eq _ _ (subTreeWidth_pos _ _),
    numShares_toElem thr x h]
  rfl

theorem blobRegion_cons (cur : Nat) (prev : Option Blob) (x : Spec.PBlob) (idx : Nat)
    (rest : List (Spec.PBlob × Nat)) :
    Spec.blobRegion cur prev ((x, idx) :: rest) =
      (match prev with
        | some p => List.replicate (idx - cur) (paddingShare p.ns p.ver)
        | none => []) ++
      sparseSeq x.blob ++ Spec.blobRegion (idx + Spec.blobShares x.blob) (some x.blob) rest := by
  cases prev <;> rfl

/-- without a preceding blob there is no padding, so the cursor is not looked at -/
theorem blobRegion_none (c c' : Nat) (placed : List (Spec.PBlob × Nat)) :
    Spec.blobRegion c none placed = Spec.blobRegion c' none placed := by
  cases placed with
  | nil => rfl
  | cons y rest => rw [blobRegion_cons, blobRegion_cons]

theorem place_fst (thr : Nat) : ∀ (l : List Spec.PBlob) (cur : Nat),
    (Spec.place thr cur l).map (·.1) = l
  | [], _ => rfl
  | x :: l, cur => by
    simp only [Spec.place, List.map_cons, place_fst thr l]

theorem place_length (thr : Nat) (l : List Spec.PBlob) (cur : Nat) :
    (Spec.place thr cur l).length = l.length := by
  have := congrArg List.length (place_fst thr l cur)
  simpa using this

theorem place_snd (thr : Nat) (ht : 1 ≤ thr) (l : List Spec.PBlob) (cur : Nat) (hok : ∀ x ∈ l, C07.BlobOK x.blob) :
    (Spec.place thr cur l).map (·.2) = placeIdx thr cur (l.map (StableSort.toElem thr)) := by
  induction l generalizing cur with
  | nil => rfl
  | cons x l ih =>
    rw [place_cons thr ht cur x l (hok x List.mem_cons_self), List.map_cons, List.map_cons, placeIdx,
      ih _ (fun y hy => hok y (List.mem_cons_of_mem _ hy))]

theorem blobRegion_place (thr : Nat) (ht : 1 ≤ thr) (l : List Spec.PBlob) (cur : Nat) (prev : Option Blob)
    (hok : ∀ x ∈ l, C07.BlobOK x.blob) :
    Spec.blobRegion cur prev (Spec.place thr cur l) = region thr cur prev (l.map (StableSort.toElem thr)) := by
  induction l generalizing cur prev with
  | nil => rfl
  | cons x l ih =>
    have hx := hok x List.mem_cons_self
    rw [place_cons thr ht cur x l hx, blobRegion_cons, numShares_toElem thr x hx, List.map_cons,
      ih _ _ (fun y hy => hok y (List.mem_cons_of_mem _ hy))]
    rfl

theorem firstBlob_eq (thr : Nat) (ht : 1 ≤ thr) (l : List Spec.PBlob) (cur : Nat)
    (hok : ∀ x ∈ l, C07.BlobOK x.blob) :
    (match (Spec.place thr cur l).head? with
      | some e => e.2
      | none => cur) = firstIdx thr cur (l.map (StableSort.toElem thr)) := by
  cases l with
  | nil => rfl
  | cons x l => rw [place_cons thr ht cur x l (hok x List.mem_cons_self)]; rfl

/-- the specification's index lookup by coordinates -/
def idxOf (placed : List (Spec.PBlob × Nat)) (i j : Nat) : Nat :=
  match placed.find? (fun e => e.1.txPos == i && e.1.blobPos == j) with
  | some e => e.2
  | none => 0

theorem idxOf_eq (placed : List (Spec.PBlob × Nat)) (y : Spec.PBlob × Nat)
    (hpw : (placed.map (·.1)).Pairwise (fun a b => ¬ (a.txPos = b.txPos ∧ a.blobPos = b.blobPos)))
    (hy : y ∈ placed) : idxOf placed y.1.txPos y.1.blobPos = y.2 := by
  unfold idxOf
  rw [find?_keys (·.1.txPos) (·.1.blobPos) (List.pairwise_map.mp hpw) hy]

theorem idxOf_place (thr : Nat) (ht : 1 ≤ thr) (l : List Spec.PBlob) (cur : Nat) (hok : ∀ x ∈ l, C07.BlobOK x.blob)
    (hkeys : (l.map (StableSort.toElem thr)).Pairwise KeyNe) {k : Nat} {e : Element} {idx : Nat}
    (he : (l.map (StableSort.toElem thr))[k]? = some e)
    (hi : (placeIdx thr cur (l.map (StableSort.toElem thr)))[k]? = some idx) :
    idxOf (Spec.place thr cur l) e.pfbIndex e.blobIndex = idx := by
  rw [← place_snd thr ht l cur hok, List.getElem?_map, Option.map_eq_some_iff] at hi
  obtain ⟨y, hy, rfl⟩ := hi
  have hy1 := congrArg (Option.map (·.1)) hy
  rw [← List.getElem?_map, place_fst] at hy1
  rw [List.getElem?_map, hy1] at he
  obtain rfl := Option.some.inj he
  exact idxOf_eq _ y (by rw [place_fst]; exact List.pairwise_map.mp hkeys) (List.mem_of_getElem? hy)

theorem sorted_ok (thr : Nat) (P : List Spec.PTx) (hok : ∀ p ∈ P, ∀ b ∈ p.blobs, C07.BlobOK b) :
    ∀ x ∈ Spec.stableSort (Spec.allBlobs P), C07.BlobOK x.blob := by
  intro x hx
  have := List.mem_map_of_mem (f := StableSort.toElem thr) hx
  rw [StableSort.stableSort_eq_mergeSort] at this
  exact sortedElems_blob thr _ (List.forall_mem_map.mpr hok) _ this

theorem pfbs_eq (thr : Nat) (ht : 1 ≤ thr) (N : List Bytes) (P : List Spec.PTx)
    (hok : ∀ p ∈ P, ∀ b ∈ p.blobs, C07.BlobOK b)
    (hidx : ∀ idx ∈ placeIdx thr (startOf N (P.map StableSort.toB)) (sortedElems thr (P.map StableSort.toB)),
      idx < 4294967296) :
    P.mapIdx (fun i p => Spec.wrap p.tx ((List.range p.blobs.length).map
      (idxOf (Spec.place thr (startOf N (P.map StableSort.toB)) (Spec.stableSort (Spec.allBlobs P))) i))) =
    (patched thr N (P.map StableSort.toB)).map (·.marshal) := by
  have hS := StableSort.stableSort_eq_mergeSort thr P
  have hSok := sorted_ok thr P hok
  have hkeys := sortedElems_keys thr (P.map StableSort.toB)
  rw [← hS] at hidx hkeys
  apply List.ext_getElem
  · rw [List.length_mapIdx, List.length_map, patched_length, List.length_map]
  · intro i h1 _
    rw [List.length_mapIdx] at h1
    have hB : (P.map StableSort.toB)[i]? = some (StableSort.toB P[i]) := by
      rw [List.getElem?_map, List.getElem?_eq_getElem h1]; rfl
    obtain ⟨iw, hpi, g2, g3, g4⟩ := patched_getElem? thr N _ i _ hB
    rw [List.getElem_mapIdx, List.getElem_map, (List.getElem?_eq_some_iff.mp hpi).2]
    -- index by index: what `Export` recorded for blob `j` is what the lookup finds
    have hsi : (List.range P[i].blobs.length).map (idxOf (Spec.place thr (startOf N (P.map StableSort.toB))
        (Spec.stableSort (Spec.allBlobs P))) i) = iw.shareIndexes := by
      apply List.ext_getElem
      · rw [List.length_map, List.length_range, g4]; rfl
      · intro j hj _
        rw [List.length_map, List.length_range] at hj
        obtain ⟨k, idx, iw', ⟨hke, hki⟩, r1, _, _, _, r6⟩ := C04.index_recorded thr N _ i j _ _ hB
          (List.getElem?_eq_getElem (l := (StableSort.toB P[i]).blobs) hj)
        obtain rfl := Option.some.inj (hpi.symm.trans r1)
        rw [← hS] at hke hki
        rw [u32_of_lt (hidx idx (List.mem_of_getElem? hki))] at r6
        rw [List.getElem_map, List.getElem_range, (List.getElem?_eq_some_iff.mp r6).2]
        exact idxOf_place thr ht _ _ hSok hkeys hke hki
    rw [hsi]
    unfold Spec.wrap
    rw [← show iw.tx = P[i].tx from g2, ← g3]

theorem blobOK_of_valid (b : Blob) (h : b.BlobValid) : C07.BlobOK b :=
  ⟨h.valid.dataPos, h.valid.dataLt, h.valid.ver⟩

/-- `h1`, `h2`: the two inequalities `Export` checks -/
theorem layout_eq_squareOf (thr : Nat) (ht : 1 ≤ thr) (N : List Bytes) (P : List Spec.PTx)
    (hv : ∀ p ∈ P, ∀ b ∈ p.blobs, b.BlobValid)
    (hne : ¬ (N = [] ∧ P = []))
    (hest : closedEstimate thr N (P.map StableSort.toB) ≤ 2 ^ 52)
    (h1 : (compactSeq txNamespace N).length +
        (compactSeq payForBlobNamespace ((patched thr N (P.map StableSort.toB)).map (·.marshal))).length ≤
        firstIdx thr (startOf N (P.map StableSort.toB)) (sortedElems thr (P.map StableSort.toB)))
    (h2 : firstIdx thr (startOf N (P.map StableSort.toB)) (sortedElems thr (P.map StableSort.toB)) +
        (region thr (startOf N (P.map StableSort.toB)) none (sortedElems thr (P.map StableSort.toB))).length ≤
        blobMinSquareSize (closedEstimate thr N (P.map StableSort.toB)) *
          blobMinSquareSize (closedEstimate thr N (P.map StableSort.toB)))
    (hss : blobMinSquareSize (closedEstimate thr N (P.map StableSort.toB)) *
          blobMinSquareSize (closedEstimate thr N (P.map StableSort.toB)) < 4294967296) :
    Spec.layout thr N P =
      some (squareOf thr N (P.map StableSort.toB) (blobMinSquareSize (closedEstimate thr N (P.map StableSort.toB)))) := by
  have hok : ∀ p ∈ P, ∀ b ∈ p.blobs, C07.BlobOK b := fun p hp b hb => blobOK_of_valid b (hv p hp b hb)
  have hSok := sorted_ok thr P hok
  have hS := StableSort.stableSort_eq_mergeSort thr P
  have hidx : ∀ idx ∈ placeIdx thr (startOf N (P.map StableSort.toB)) (sortedElems thr (P.map StableSort.toB)),
      idx < 4294967296 := by
    intro idx hi
    have := placeIdx_le_endCursor thr _ _ idx hi
    rw [← region_end thr _ _ (eok_sortedElems thr _ (List.forall_mem_map.mpr hv))] at this
    omega
  unfold Spec.layout
  rw [if_neg (by simpa only [List.isEmpty_iff] using hne)]
  extract_lets side txS start placed idxOf' pfbs pfbS first used resPad body
  -- each part the specification computes is the part of `squareOf`
  have hstart : start = startOf N (P.map StableSort.toB) := C07.worstStart_eq N P
  have hside : side = blobMinSquareSize (closedEstimate thr N (P.map StableSort.toB)) := by
    rw [← C07.minSide_eq _ (closedEstimate_pos thr N _ (by simpa using hne)) hest, ← C07_toB_eq,
      ← C07.estimate_eq thr ht N P hok]
  have hpfbS : pfbS = compactSeq payForBlobNamespace ((patched thr N (P.map StableSort.toB)).map (·.marshal)) := by
    rw [← pfbs_eq thr ht N P hok hidx, ← hstart]
    rfl
  generalize P.map StableSort.toB = B at *
  have hfirst : first = firstIdx thr (startOf N B) (sortedElems thr B) := by
    rw [← hstart, ← hS]
    exact firstBlob_eq thr ht _ _ hSok
  have hreg : Spec.blobRegion first none placed = region thr (startOf N B) none (sortedElems thr B) := by
    rw [← hstart, ← hS, ← blobRegion_place thr ht _ _ _ hSok]
    exact blobRegion_none first start placed
  -- without blobs nothing separates the wrapped PFBs from the end of the reserved namespaces
  have hres : resPad = List.replicate (first - used) (paddingShare primaryReservedPaddingNamespace 0) := by
    by_cases hem : placed.isEmpty = true
    · have hnil : sortedElems thr B = [] := by
        rw [← hS, List.map_eq_nil_iff, ← List.length_eq_zero_iff, ← place_length thr _ start]
        exact List.length_eq_zero_iff.mpr (List.isEmpty_iff.mp hem)
      have hp : patched thr N B = worstWrappers B := by
        unfold patched; rw [hnil]; rfl
      have : first - used = 0 := by
        rw [hfirst, hnil, show used = txS.length + pfbS.length from rfl, hpfbS, hp, ← txShareCount_eq,
          ← pfbShareCount_eq]
        exact Nat.sub_self _
      rw [this]
      exact if_pos hem
    · exact if_neg hem
  have hbody : body = txS ++ pfbS ++ List.replicate (first - (txS.length + pfbS.length))
      (paddingShare primaryReservedPaddingNamespace 0) ++ region thr (startOf N B) none (sortedElems thr B) := by
    rw [← hreg, ← hres]
  have hused : txS.length + pfbS.length ≤ first := by rw [hpfbS, hfirst]; exact h1
  have hlen : body.length = first + (region thr (startOf N B) none (sortedElems thr B)).length := by
    rw [hbody]
    simp only [List.length_append, List.length_replicate]
    omega
  rw [if_neg (Nat.not_lt.mpr hused), hlen, hside, if_neg (by rw [hfirst]; exact Nat.not_lt.mpr h2), hbody, hfirst, hpfbS]
  rfl

theorem layout_empty (thr : Nat) : Spec.layout thr [] [] = some [paddingShare tailPaddingNamespace 0] := rfl

theorem pow2_of_validConfig (max : Nat) (h : Spec.validConfig max = true) : C15.Pow2 max := by
  show Nat.isPowerOfTwo max
  rw [← Nat.ne_zero_and_sub_one_eq_zero_iff_isPowerOfTwo]
  simpa [Spec.validConfig] using h

theorem decOK_of_decValid (dec : Bytes → Decoded) (hdec : DecValid dec) : C07.DecOK dec :=
  fun t bt h b hb => blobOK_of_valid b (hdec t bt h b hb)

theorem _root_.GoSquare.KeptRaw.layout {dec : Bytes → Decoded} {max thr : Nat} {b : Builder} {N bl : List Bytes}
    (hk : KeptRaw dec max thr b N bl) (hdec : DecValid dec) (ht : 1 ≤ thr) (hcfg : Spec.validConfig max = true)
    (hsz : 478 * (max * max) < 4294967296) {b' : Builder} {sq : List Bytes} (hexp : b.exportSquare = .ok (b', sq)) :
    Spec.layout thr N (bl.map (C07.toP dec)) = some sq := by
  rcases hk.isSquareOf hdec hsz hexp with ⟨hN, hb, hs⟩ | ⟨hne, hs, g1, g2, _⟩
  · subst hN hb hs; rfl
  · have hB : (bl.map (C07.toP dec)).map StableSort.toB = bl.map (decB dec) := C07.toB_toP dec bl
    obtain ⟨h52, _, _, hss⟩ := side_of_fit thr N _ max (pow2_of_validConfig max hcfg) hk.fit hsz
    rw [← hB] at h52 g1 g2 hss hs
    rw [layout_eq_squareOf thr ht N _ (C07.toP_ok dec hdec bl hk.blobTx) (by simpa using hne) h52 g1 g2 hss, hs]

end GoSquare.SpecLayout
