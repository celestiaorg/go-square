import GoSquare.Proofs.Namespace
import GoSquare.Proofs.ListLemmas
import GoSquare.Model.Parse
/-! # C20 — namespace range lookup agrees with the share list (first half of the property)

`GetShareRangeForNamespace` on a namespace-ordered share list returns exactly the run of shares
carrying the queried namespace, `(0, 0)` when it is absent. Stated on the decomposition of a sorted
list into smaller namespaces, the run, larger ones, which every ordered list has
(`sorted_decomposition`). -/
namespace GoSquare.C20

abbrev below (q : Bytes) (s : Bytes) : Prop := cmpBytes (Share.ns s) q = -1
abbrev at_ (q : Bytes) (s : Bytes) : Prop := Share.ns s = q
abbrev above (q : Bytes) (s : Bytes) : Prop := cmpBytes (Share.ns s) q = 1

section
variable {q s : Bytes} (total : Nat) (rest : List Bytes) (i : Nat) (start : Option Nat)

theorem rangeLoop_cons :
    rangeLoop q total (s :: rest) i start =
      if cmpBytes (Share.ns s) q == 1 && start.isSome then (start.getD 0, i)
      else rangeLoop q total rest (i + 1) (if cmpBytes (Share.ns s) q == 0 && start.isNone then some i else start) := by
  -- the code asks `q.Equals(share namespace)`
  rw [rangeLoop, show Ns.equals q (Share.ns s) = Ns.equals (Share.ns s) q from BEq.comm, equals_eq_cmp]; rfl

theorem rangeLoop_below (h : below q s) :
    rangeLoop q total (s :: rest) i start = rangeLoop q total rest (i + 1) start := by
  rw [rangeLoop_cons, h]; rfl

theorem rangeLoop_at (h : at_ q s) :
    rangeLoop q total (s :: rest) i start = rangeLoop q total rest (i + 1) (some (start.getD i)) := by
  rw [rangeLoop_cons, (cmpBytes_eq_iff _ _).mpr h]; cases start <;> rfl

theorem rangeLoop_above (h : above q s) :
    rangeLoop q total (s :: rest) i start = match start with
      | some st => (st, i)
      | none => rangeLoop q total rest (i + 1) none := by
  rw [rangeLoop_cons, h]; cases start <;> rfl
end

section
variable (q : Bytes) (total : Nat)

theorem loop_below (lt rest : List Bytes) (h : ∀ s ∈ lt, below q s) (i : Nat) (start : Option Nat) :
    rangeLoop q total (lt ++ rest) i start = rangeLoop q total rest (i + lt.length) start := by
  induction lt generalizing i with
  | nil => rfl
  | cons s lt ih =>
    rw [List.cons_append, rangeLoop_below _ _ _ _ (h s (by simp)), ih (fun x hx => h x (by simp [hx])),
      Nat.add_right_comm]
    rfl

theorem loop_at (run rest : List Bytes) (h : ∀ s ∈ run, at_ q s) (i st : Nat) :
    rangeLoop q total (run ++ rest) i (some st) = rangeLoop q total rest (i + run.length) (some st) := by
  induction run generalizing i with
  | nil => rfl
  | cons s run ih =>
    rw [List.cons_append, rangeLoop_at _ _ _ _ (h s (by simp)), Option.getD_some,
      ih (fun x hx => h x (by simp [hx])), Nat.add_right_comm]
    rfl

theorem loop_above (gt : List Bytes) (h : ∀ s ∈ gt, above q s) (i : Nat) : rangeLoop q total gt i none = (0, 0) := by
  induction gt generalizing i with
  | nil => rfl
  | cons s gt ih => rw [rangeLoop_above _ _ _ _ (h s (by simp))]; exact ih (fun x hx => h x (by simp [hx])) _

theorem loop_run (lt run gt : List Bytes)
    (hlt : ∀ s ∈ lt, below q s) (hrun : ∀ s ∈ run, at_ q s) (hgt : ∀ s ∈ gt, above q s) :
    rangeLoop q (lt ++ run ++ gt).length (lt ++ run ++ gt) 0 none =
      if run = [] then (0, 0) else (lt.length, lt.length + run.length) := by
  generalize htot : (lt ++ run ++ gt).length = total
  rw [List.append_assoc, loop_below q total lt _ hlt, Nat.zero_add]
  cases run with
  | nil => exact loop_above q total gt hgt _
  | cons r rs =>
    rw [List.cons_append, rangeLoop_at _ _ _ _ (hrun r (by simp)), loop_at q total rs gt (fun x hx => hrun x (by simp [hx])), Nat.add_right_comm]
    cases gt with
    | nil => rw [← htot, List.append_nil, List.length_append]; rfl
    | cons g gs => rw [rangeLoop_above _ _ _ _ (hgt g (by simp))]; rfl

/-- neither early exit of the lookup fires -/
theorem range_eq_loop (l : List Bytes) (h1 : ∀ s ∈ l.head?, cmpBytes (Share.ns s) q ≤ 0)
    (h2 : ∀ s ∈ l.getLast?, 0 ≤ cmpBytes (Share.ns s) q) :
    getShareRangeForNamespace l q = rangeLoop q l.length l 0 none := by
  cases l with
  | nil => rfl
  | cons s0 rest =>
    have a := h1 s0 rfl
    have b := h2 _ (List.getLast?_eq_some_getLast (List.cons_ne_nil s0 rest))
    rw [cmpBytes_swap] at a b
    simp only [getShareRangeForNamespace, Ns.isLessThan, Ns.isGreaterThan, Ns.compare,
      List.getLast?_eq_some_getLast (List.cons_ne_nil s0 rest)]
    rw [if_neg (by simp; omega), if_neg (by simp; omega)]

theorem range_of_loop_zero (l : List Bytes) (h : rangeLoop q l.length l 0 none = (0, 0)) :
    getShareRangeForNamespace l q = (0, 0) := by
  cases l with
  | nil => rfl
  | cons s0 rest =>
    rw [getShareRangeForNamespace, h, ite_self, ite_self]

end

/-- **C20 (range lookup).** On `lt ++ run ++ gt`, namespaces below, at and above the query,
    `GetShareRangeForNamespace` returns `(|lt|, |lt| + |run|)`, and `(0, 0)` when `run` is empty. -/
theorem lookup_returns_the_run (q : Bytes) (lt run gt : List Bytes)
    (hlt : ∀ s ∈ lt, below q s) (hrun : ∀ s ∈ run, at_ q s) (hgt : ∀ s ∈ gt, above q s) :
    getShareRangeForNamespace (lt ++ run ++ gt) q =
      if run = [] then (0, 0) else (lt.length, lt.length + run.length) := by
  have hloop := loop_run q lt run gt hlt hrun hgt
  by_cases hre : run = []
  · rw [if_pos hre] at hloop ⊢
    exact range_of_loop_zero q _ hloop
  · rw [if_neg hre] at hloop ⊢
    have hat : ∀ s ∈ run, cmpBytes (Share.ns s) q = 0 := fun s hs => (cmpBytes_eq_iff _ _).mpr (hrun s hs)
    rw [range_eq_loop q _ ?_ ?_, hloop]
    · intro s hs
      rcases List.mem_append.mp (mem_left_of_mem_head? (by simp [hre]) hs) with h | h
      · have := hlt s h; omega
      · have := hat s h; omega
    · rw [List.append_assoc]
      intro s hs
      rcases List.mem_append.mp (mem_right_of_mem_getLast? (by simp [hre]) hs) with h | h
      · have := hat s h; omega
      · have := hgt s h; omega

/-- no case on `run = []`: the empty range `(0, 0)` is `(0, |run|)` -/
theorem lookup_leading_run (q : Bytes) (run gt : List Bytes) (hrun : ∀ s ∈ run, Share.ns s = q)
    (hgt : ∀ s ∈ gt, cmpBytes (Share.ns s) q = 1) : getShareRangeForNamespace (run ++ gt) q = (0, run.length) := by
  have := lookup_returns_the_run q [] run gt (fun _ h => nomatch h) hrun hgt
  rw [List.nil_append, List.length_nil, Nat.zero_add] at this
  rw [this]
  split
  · rename_i h; rw [h]; rfl
  · rfl

def Sorted (l : List Bytes) : Prop := l.Pairwise (fun a b => cmpBytes (Share.ns a) (Share.ns b) ≤ 0)

theorem sorted_decomposition (q : Bytes) : ∀ (l : List Bytes), Sorted l →
    ∃ lt run gt, l = lt ++ run ++ gt ∧ (∀ s ∈ lt, below q s) ∧ (∀ s ∈ run, at_ q s) ∧ (∀ s ∈ gt, above q s) := by
  intro l h
  induction l with
  | nil => exact ⟨[], [], [], rfl, nofun, nofun, nofun⟩
  | cons x xs ih =>
    obtain ⟨hx, hxs⟩ := List.pairwise_cons.mp h
    obtain ⟨lt, run, gt, rfl, h1, h2, h3⟩ := ih hxs
    have hm : ∀ y ∈ lt ++ run ++ gt, cmpBytes (Share.ns x) q ≤ cmpBytes (Share.ns y) q :=
      fun y hy => cmpBytes_mono q (hx y hy)
    rcases cmpBytes_range (Share.ns x) q with hc | hc | hc
    · exact ⟨x :: lt, run, gt, rfl, List.forall_mem_cons.mpr ⟨hc, h1⟩, h2, h3⟩
    · refine ⟨[], x :: (lt ++ run), gt, rfl, nofun, List.forall_mem_cons.mpr ⟨(cmpBytes_eq_iff _ _).mp hc, ?_⟩, h3⟩
      refine List.forall_mem_append.mpr ⟨fun y hy => ?_, h2⟩
      have := hm y (by simp [hy])
      have := h1 y hy
      omega
    · refine ⟨[], [], x :: (lt ++ run ++ gt), rfl, nofun, nofun, List.forall_mem_cons.mpr ⟨hc, fun y hy => ?_⟩⟩
      have := hm y hy
      have := cmpBytes_range (Share.ns y) q
      omega

theorem getElem_at_iff {q : Bytes} {lt run gt : List Bytes}
    (hlt : ∀ s ∈ lt, below q s) (hrun : ∀ s ∈ run, at_ q s) (hgt : ∀ s ∈ gt, above q s)
    (i : Nat) (hi : i < (lt ++ run ++ gt).length) :
    Share.ns (lt ++ run ++ gt)[i] = q ↔ lt.length ≤ i ∧ i < lt.length + run.length := by
  rw [← List.length_append]
  by_cases hab : i < (lt ++ run).length
  · rw [List.getElem_append_left hab]
    by_cases ha : i < lt.length
    · rw [List.getElem_append_left ha]
      exact ⟨fun e => absurd e (ne_of_cmp (hlt _ (List.getElem_mem _)) (by decide)),
        fun h => absurd ha (Nat.not_lt.mpr h.1)⟩
    · rw [List.getElem_append_right (Nat.le_of_not_lt ha)]
      exact ⟨fun _ => ⟨Nat.le_of_not_lt ha, hab⟩, fun _ => hrun _ (List.getElem_mem _)⟩
  · rw [List.getElem_append_right (Nat.le_of_not_lt hab)]
    exact ⟨fun e => absurd e (ne_of_cmp (hgt _ (List.getElem_mem _)) (by decide)), fun h => absurd h.2 hab⟩

/-- **C20 (range lookup, on any namespace-ordered list).** The returned range holds exactly the
    indexes of the shares carrying the queried namespace; the only premise is the order. -/
theorem lookup_on_sorted (l : List Bytes) (q : Bytes) (h : Sorted l) :
    (∀ i (hi : i < l.length), Share.ns l[i] = q ↔
      (getShareRangeForNamespace l q).1 ≤ i ∧ i < (getShareRangeForNamespace l q).2) ∧
    ((∀ s ∈ l, Share.ns s ≠ q) → getShareRangeForNamespace l q = (0, 0)) := by
  obtain ⟨lt, run, gt, rfl, h1, h2, h3⟩ := sorted_decomposition q l h
  rw [lookup_returns_the_run q lt run gt h1 h2 h3]
  constructor
  · intro i hi
    rw [getElem_at_iff h1 h2 h3]
    split
    · rename_i hre; simp [hre]
    · rfl
  · intro hno
    rw [if_pos]
    exact List.eq_nil_iff_forall_not_mem.mpr fun y hy => hno y (by simp [hy]) (h2 y hy)

/-- non-vacuity: a run of two among four shares -/
example : getShareRangeForNamespace
    [txNamespace ++ zeros 483, payForBlobNamespace ++ zeros 483, payForBlobNamespace ++ zeros 483, tailPaddingNamespace ++ zeros 483]
    payForBlobNamespace = (1, 3) := by decide

end GoSquare.C20
