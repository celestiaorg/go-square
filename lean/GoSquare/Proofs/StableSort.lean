import GoSquare.Proofs.SortOrder
import GoSquare.Spec.Layout
/-! C07: the specification's insertion sort (`Spec.stableSort`) and the model's merge sort
    (`List.mergeSort elemLe`, i.e. Go's `sort.SliceStable`) produce the same order, because a
    duplicate-free list has only one sorted arrangement that keeps ties in input order. -/
namespace GoSquare.StableSort
open Spec List

def pLe (x y : PBlob) : Bool := cmpBytes x.blob.ns y.blob.ns ≤ 0

theorem pLe_trans (a b c : PBlob) : pLe a b = true → pLe b c = true → pLe a c = true :=
  elemLe_trans (newElement a.blob 0 0 0) (newElement b.blob 0 0 0) (newElement c.blob 0 0 0)

theorem pLe_total (a b : PBlob) : (pLe a b || pLe b a) = true :=
  elemLe_total (newElement a.blob 0 0 0) (newElement b.blob 0 0 0)

theorem insertSorted_cons (x y : PBlob) (ys : List PBlob) :
    insertSorted x (y :: ys) = if pLe y x = true then y :: insertSorted x ys else x :: y :: ys := by
  have := cmpBytes_swap x.blob.ns y.blob.ns
  rw [insertSorted]
  by_cases h : cmpBytes x.blob.ns y.blob.ns < 0
  · rw [if_pos h, if_neg (by simp only [pLe, decide_eq_true_eq]; omega)]
  · rw [if_neg h, if_pos (by simp only [pLe, decide_eq_true_eq]; omega)]

theorem insertSorted_eq (x : PBlob) {l : List PBlob} (hs : l.Pairwise (fun a b => pLe a b = true)) :
    ∃ A C, l = A ++ C ∧ insertSorted x l = A ++ x :: C ∧ (∀ a ∈ A, pLe a x = true) ∧ ∀ c ∈ C, ¬ pLe c x = true := by
  induction l with
  | nil => exact ⟨[], [], rfl, rfl, fun _ h => absurd h List.not_mem_nil, fun _ h => absurd h List.not_mem_nil⟩
  | cons y ys ih =>
    rw [List.pairwise_cons] at hs
    rw [insertSorted_cons]
    by_cases h : pLe y x = true
    · obtain ⟨A, C, rfl, e, hA, hC⟩ := ih hs.2
      rw [if_pos h, e]
      exact ⟨y :: A, C, rfl, rfl, List.forall_mem_cons.mpr ⟨h, hA⟩, hC⟩
    · rw [if_neg h]
      refine ⟨[], y :: ys, rfl, rfl, fun _ h => absurd h List.not_mem_nil, List.forall_mem_cons.mpr ⟨h, ?_⟩⟩
      exact fun c hc hcx => h (pLe_trans y c x (hs.1 c hc) hcx)

structure IsStableSortOf (acc pre : List PBlob) : Prop where
  perm : acc.Perm pre
  sorted : acc.Pairwise (fun a b => pLe a b = true)
  stable : acc.Pairwise (fun a b => pLe b a = true → [a, b] <+ pre)

theorem IsStableSortOf.insert {acc pre : List PBlob} (h : IsStableSortOf acc pre) (x : PBlob) :
    IsStableSortOf (insertSorted x acc) (pre ++ [x]) := by
  obtain ⟨hp, hs, hst⟩ := h
  obtain ⟨A, C, rfl, e, hA, hC⟩ := insertSorted_eq x hs
  rw [e]
  refine ⟨?_, pairwise_insert hs hA ?_, pairwise_insert (hst.imp ?_) ?_ ?_⟩
  · exact (List.perm_middle.trans (hp.cons x)).trans (List.perm_append_singleton x pre).symm
  · intro c hc
    exact (Bool.or_eq_true_iff.mp (pLe_total x c)).resolve_right (hC c hc)
  -- ties among the old elements, ties of an old element with `x`, and none of `x` with what follows it
  · exact fun hab hle => (hab hle).trans (List.sublist_append_left pre [x])
  · intro a ha _
    exact (List.singleton_sublist.mpr (hp.subset (List.mem_append_left C ha))).append (List.Sublist.refl [x])
  · exact fun c hc hcx => absurd hcx (hC c hc)

theorem IsStableSortOf.foldl {acc pre : List PBlob} (h : IsStableSortOf acc pre) (l : List PBlob) :
    IsStableSortOf (l.foldl (fun acc x => insertSorted x acc) acc) (pre ++ l) := by
  induction l generalizing acc pre with
  | nil => rwa [List.append_nil]
  | cons x xs ih =>
    have := ih (h.insert x)
    rwa [List.append_assoc] at this

theorem stableSort_isStableSortOf (l : List PBlob) : IsStableSortOf (stableSort l) l :=
  IsStableSortOf.foldl ⟨List.Perm.refl _, List.Pairwise.nil, List.Pairwise.nil⟩ l

theorem stableSort_sorted (l : List PBlob) :
    (stableSort l).Pairwise (fun a b => cmpBytes a.blob.ns b.blob.ns ≤ 0) :=
  (stableSort_isStableSortOf l).sorted.imp (fun h => of_decide_eq_true h)

theorem stableSort_stable_eq (l : List PBlob) :
    (stableSort l).Pairwise (fun a b => a.blob.ns = b.blob.ns → [a, b] <+ l) := by
  refine (stableSort_isStableSortOf l).stable.imp ?_
  intro a b h hns
  exact h (elemLe_of_ns_eq (a := newElement b.blob 0 0 0) (b := newElement a.blob 0 0 0) hns.symm)

theorem stableSort_eq_mergeSort_of_nodup {l : List PBlob} (hn : l.Nodup) :
    stableSort l = l.mergeSort pLe :=
  eq_mergeSort_of_stable pLe_trans pLe_total hn (stableSort_isStableSortOf l).perm
    (stableSort_isStableSortOf l).sorted (stableSort_isStableSortOf l).stable

def toElem (thr : Nat) (x : Spec.PBlob) : Element := newElement x.blob x.txPos x.blobPos thr

def toB (p : Spec.PTx) : BlobTx := { tx := p.tx, blobs := p.blobs }

theorem allBlobs_toElem (thr : Nat) (P : List Spec.PTx) :
    (Spec.allBlobs P).map (toElem thr) = allElements thr (P.map toB) := by
  unfold Spec.allBlobs allElements elementsOf
  rw [List.map_flatten]
  congr 1
  apply List.ext_getElem?
  intro i
  simp only [List.getElem?_map, List.getElem?_mapIdx, Option.map_map]
  congr 1
  funext p
  apply List.ext_getElem?
  intro j
  simp only [Function.comp_apply, List.getElem?_map, List.getElem?_mapIdx, Option.map_map]
  rfl

theorem allBlobs_nodup (P : List Spec.PTx) : (Spec.allBlobs P).Nodup := by
  have := allElements_nodup 0 (P.map toB)
  rw [← allBlobs_toElem] at this
  exact List.Pairwise.of_map _ (fun a b h e => h (congrArg _ e)) this

/-- (C07) the two sorts agree, the blobs of the specification read as the builder's elements -/
theorem stableSort_eq_mergeSort (thr : Nat) (P : List Spec.PTx) :
    (Spec.stableSort (Spec.allBlobs P)).map (toElem thr) = sortedElems thr (P.map toB) := by
  unfold sortedElems
  rw [← allBlobs_toElem, stableSort_eq_mergeSort_of_nodup (allBlobs_nodup P)]
  exact List.map_mergeSort (fun _ _ _ _ => rfl)

end GoSquare.StableSort
