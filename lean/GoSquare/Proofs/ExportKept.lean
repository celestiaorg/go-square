import GoSquare.Proofs.Export
/-! `Export` of a builder that has kept `N` and `B`: when it succeeds, and the square as a closed-form
    function of the kept transactions. -/
namespace GoSquare
open Builder Spec

/-- `b.Pfbs` before `Export` -/
def worstWrappers (B : List BlobTx) : List Proto.IndexWrapper :=
  B.map (fun t => newIndexWrapper t.tx (worstCaseShareIndexes t.blobs.length))

/-- `TxCounter.Size()` after keeping `N` -/
def txShareCount (N : List Bytes) : Nat := sizeOf ((N.map (fun t => unitBytes t.length)).sum)
/-- `PfbCounter.Size()` after keeping `B`: the wrappers at their worst-case size -/
def pfbShareCount (B : List BlobTx) : Nat := sizeOf ((B.map (fun t => unitBytes (worstLen t))).sum)

/-- the blobs in write order: `b.Blobs` after the `sort.SliceStable` of `Export` -/
def sortedElems (thr : Nat) (B : List BlobTx) : List Element := (allElements thr B).mergeSort elemLe

/-- where `Export` starts the cursor: `TxCounter.Size() + PfbCounter.Size()`, the worst-case sizes -/
def startOf (N : List Bytes) (B : List BlobTx) : Nat := txShareCount N + pfbShareCount B

/-- `b.Pfbs` after `Export`: the wrappers with the recorded start indexes -/
def patched (thr : Nat) (N : List Bytes) (B : List BlobTx) : List Proto.IndexWrapper :=
  patchAll thr (startOf N B) (sortedElems thr B) (worstWrappers B)

/-- the closed-form square of side `ss` of the kept `N` and `B`: tx shares ‖ PFB shares (recorded indexes) ‖
    reserved padding up to the first blob ‖ blob region ‖ tail padding -/
def squareOf (thr : Nat) (N : List Bytes) (B : List BlobTx) (ss : Nat) : List Bytes :=
  let txS := compactSeq txNamespace N
  let pfbS := compactSeq payForBlobNamespace ((patched thr N B).map (·.marshal))
  let first := firstIdx thr (startOf N B) (sortedElems thr B)
  let reg := region thr (startOf N B) none (sortedElems thr B)
  txS ++ pfbS ++ List.replicate (first - (txS.length + pfbS.length)) (paddingShare primaryReservedPaddingNamespace 0) ++
    reg ++ List.replicate (ss * ss - (first + reg.length)) (paddingShare tailPaddingNamespace 0)

/-- `squareOf` after its two compact sequences (`squareOf_eq_parts`) -/
def restOf (thr : Nat) (N : List Bytes) (B : List BlobTx) (ss : Nat) : List Bytes :=
  List.replicate (firstIdx thr (startOf N B) (sortedElems thr B) -
      ((compactSeq txNamespace N).length + (compactSeq payForBlobNamespace ((patched thr N B).map (·.marshal))).length))
    (paddingShare primaryReservedPaddingNamespace 0) ++
  region thr (startOf N B) none (sortedElems thr B) ++
  List.replicate (ss * ss - (firstIdx thr (startOf N B) (sortedElems thr B) +
      (region thr (startOf N B) none (sortedElems thr B)).length)) (paddingShare tailPaddingNamespace 0)

theorem squareOf_eq_parts (thr : Nat) (N : List Bytes) (B : List BlobTx) (ss : Nat) :
    squareOf thr N B ss = compactSeq txNamespace N ++
      compactSeq payForBlobNamespace ((patched thr N B).map (·.marshal)) ++ restOf thr N B ss := by
  simp only [squareOf, restOf, List.append_assoc]

theorem unitStream_length' (us : List Bytes) :
    (unitStream us).length = (us.map (fun t => unitBytes t.length)).sum :=
  (unitStream_length us).trans (congrArg List.sum (List.map_congr_left (fun _ _ => Nat.add_comm _ _)))

theorem txShareCount_eq (N : List Bytes) : txShareCount N = (compactSeq txNamespace N).length := by
  rw [compactSeq_length, unitStream_length', ← sizeOf_eq_compactSharesNeeded]; rfl

theorem pfbShareCount_eq (B : List BlobTx) :
    pfbShareCount B = (compactSeq payForBlobNamespace ((worstWrappers B).map (·.marshal))).length := by
  rw [compactSeq_length, unitStream_length', ← sizeOf_eq_compactSharesNeeded]
  unfold pfbShareCount worstWrappers
  rw [List.map_map, List.map_map]
  rfl

theorem unit_sum_eq_zero {α} (f : α → Nat) : ∀ (l : List α), (l.map (fun x => unitBytes (f x))).sum = 0 ↔ l = []
  | [] => by simp
  | x :: l => by
    simp only [List.map_cons, List.sum_cons, reduceCtorEq, iff_false]
    have := uvarintLen_pos (f x)
    unfold unitBytes; omega

theorem txShareCount_eq_zero {N : List Bytes} : txShareCount N = 0 ↔ N = [] :=
  sizeOf_eq_zero.trans (unit_sum_eq_zero List.length N)

theorem pfbShareCount_eq_zero {B : List BlobTx} : pfbShareCount B = 0 ↔ B = [] :=
  sizeOf_eq_zero.trans (unit_sum_eq_zero worstLen B)

theorem startOf_le_closedEstimate (thr : Nat) (N : List Bytes) (B : List BlobTx) :
    startOf N B ≤ closedEstimate thr N B := Nat.le_add_right _ _

theorem closedEstimate_pos (thr : Nat) (N : List Bytes) (B : List BlobTx) (hne : ¬ (N = [] ∧ B = [])) :
    1 ≤ closedEstimate thr N B := by
  refine Nat.le_trans (Nat.pos_of_ne_zero fun h => hne ?_) (startOf_le_closedEstimate thr N B)
  exact ⟨txShareCount_eq_zero.mp (Nat.eq_zero_of_add_eq_zero_right h),
    pfbShareCount_eq_zero.mp (Nat.eq_zero_of_add_eq_zero_left h)⟩

theorem mem_allElements_iff (thr : Nat) (B : List BlobTx) (e : Element) :
    e ∈ allElements thr B ↔
      ∃ p j t bl, B[p]? = some t ∧ t.blobs[j]? = some bl ∧ e = newElement bl p j thr := by
  constructor
  · intro he
    obtain ⟨_, hl, hel⟩ := List.mem_flatten.mp he
    obtain ⟨p, hp, rfl⟩ := List.mem_mapIdx.mp hl
    obtain ⟨j, hj, rfl⟩ := List.mem_mapIdx.mp hel
    exact ⟨p, j, _, _, List.getElem?_eq_getElem hp, List.getElem?_eq_getElem hj, rfl⟩
  · rintro ⟨p, j, t, bl, hp, hj, rfl⟩
    obtain ⟨hp', rfl⟩ := List.getElem?_eq_some_iff.mp hp
    obtain ⟨hj', rfl⟩ := List.getElem?_eq_some_iff.mp hj
    exact List.mem_flatten.mpr ⟨_, List.mem_mapIdx.mpr ⟨p, hp', rfl⟩, List.mem_mapIdx.mpr ⟨j, hj', rfl⟩⟩

theorem mem_allElements (thr : Nat) (B : List BlobTx) (e : Element) (he : e ∈ allElements thr B) :
    ∃ t ∈ B, ∃ bl ∈ t.blobs, ∃ p j, e = newElement bl p j thr := by
  obtain ⟨p, j, t, bl, hp, hj, rfl⟩ := (mem_allElements_iff thr B e).mp he
  exact ⟨t, List.mem_of_getElem? hp, bl, List.mem_of_getElem? hj, p, j, rfl⟩

theorem sortedElems_blob {P : Blob → Prop} (thr : Nat) (B : List BlobTx) (h : ∀ t ∈ B, ∀ bl ∈ t.blobs, P bl) :
    ∀ e ∈ sortedElems thr B, P e.blob := by
  intro e he
  obtain ⟨t, ht, bl, hbl, p, j, rfl⟩ := mem_allElements thr B e (List.mem_mergeSort.mp he)
  exact h t ht bl hbl

theorem eok_allElements (thr : Nat) (B : List BlobTx) (hv : ∀ t ∈ B, ∀ bl ∈ t.blobs, bl.BlobValid) :
    ∀ e ∈ allElements thr B, EOK e := by
  intro e he
  obtain ⟨t, ht, bl, hbl, p, j, rfl⟩ := mem_allElements thr B e he
  have hv := hv t ht bl hbl
  refine ⟨hv, ?_⟩
  simp only [newElement, u32_of_lt hv.valid.dataLt]
  exact (sparseSeq_length bl hv.valid).symm

theorem eok_sortedElems (thr : Nat) (B : List BlobTx) (hv : ∀ t ∈ B, ∀ bl ∈ t.blobs, bl.BlobValid) :
    ∀ e ∈ sortedElems thr B, EOK e :=
  fun e he => eok_allElements thr B hv e (List.mem_mergeSort.mp he)

theorem Kept.exportCore_eq {b : Builder} {N : List Bytes} {B : List BlobTx} (hk : Kept b N B) :
    exportCore b.thr b.currentSize b.txs b.pfbs b.blobs b.txCounter.size b.pfbCounter.size =
      exportCore b.thr (closedEstimate b.thr N B : Nat) N (worstWrappers B) (allElements b.thr B)
        (txShareCount N) (pfbShareCount B) := by
  rw [hk.txC.size, hk.pfbC.size, hk.txs, hk.pfbs, hk.blobs, hk.size]
  rfl

theorem placeable_sortedElems (thr cur : Nat) (B : List BlobTx) :
    Placeable thr (worstWrappers B).length cur (sortedElems thr B) := by
  refine placeable_of_reserved thr _ _ cur fun e he => ?_
  obtain ⟨p, j, t, bl, hp, _, rfl⟩ := (mem_allElements_iff thr B e).mp (List.mem_mergeSort.mp he)
  exact ⟨rfl, by rw [worstWrappers, List.length_map]; exact (List.getElem?_eq_some_iff.mp hp).1⟩

theorem Kept.exportSquare_nil {b : Builder} (hk : Kept b [] []) :
    b.exportSquare = .ok (b, [paddingShare tailPaddingNamespace 0]) := by
  unfold Builder.exportSquare
  rw [hk.exportCore_eq, txShareCount_eq_zero.mpr rfl, pfbShareCount_eq_zero.mpr rfl, exportCore_empty]
  rfl

/-- `Export` of a builder that has kept `N` and `B` (not both empty, blob-valid blobs, `478·max² < 2^32`)
    succeeds exactly when its three checks pass, and then returns `squareOf` -/
theorem Kept.exportSquare_ok_iff {b : Builder} {N : List Bytes} {B : List BlobTx} (hk : Kept b N B)
    (hv : ∀ t ∈ B, ∀ bl ∈ t.blobs, bl.BlobValid)
    (hsz : 478 * (b.maxSquareSize * b.maxSquareSize) < 4294967296) (hne : ¬ (N = [] ∧ B = []))
    (b' : Builder) (sq : List Bytes) :
    let ss := blobMinSquareSize (closedEstimate b.thr N B)
    let pfbS := compactSeq payForBlobNamespace ((patched b.thr N B).map (·.marshal))
    let first := firstIdx b.thr (startOf N B) (sortedElems b.thr B)
    b.exportSquare = .ok (b', sq) ↔
      pfbS.length ≤ pfbShareCount B ∧ (compactSeq txNamespace N).length + pfbS.length ≤ first ∧
      first + (region b.thr (startOf N B) none (sortedElems b.thr B)).length ≤ ss * ss ∧
      b' = { b with blobs := sortedElems b.thr B, pfbs := patched b.thr N B, done := true } ∧
      sq = squareOf b.thr N B ss := by
  have hs : txShareCount N + pfbShareCount B ≤ b.maxSquareSize * b.maxSquareSize :=
    Nat.le_trans (startOf_le_closedEstimate b.thr N B) hk.fit
  have hcore := fun r => exportCore_ok_iff b.thr (closedEstimate b.thr N B : Nat) N (worstWrappers B) (allElements b.thr B)
    (txShareCount N) (pfbShareCount B) r (fun hc => hne ⟨txShareCount_eq_zero.mp hc.1, pfbShareCount_eq_zero.mp hc.2⟩)
    (eok_allElements b.thr B hv) (txShareCount_eq N) (fun _ => pfbShareCount_eq B)
    (Nat.lt_of_le_of_lt (Nat.mul_le_mul_left _ (Nat.le_trans (Nat.le_add_right _ _) hs)) hsz)
    (Nat.lt_of_le_of_lt (Nat.mul_le_mul_left _ (Nat.le_trans (Nat.le_add_left _ _) hs)) hsz)
  unfold Builder.exportSquare
  rw [hk.exportCore_eq]
  constructor
  · intro h
    obtain ⟨⟨upd, sq'⟩, hc, hr⟩ := res_bind_ok' h
    obtain ⟨_, g0, g1, g2, e⟩ := (hcore _).mp hc
    cases e
    cases hr
    exact ⟨g0, g1, g2, rfl, rfl⟩
  · intro ⟨g0, g1, g2, eb, es⟩
    rw [eb, es, (hcore _).mpr ⟨placeable_sortedElems .., g0, g1, g2, rfl⟩]
    rfl

/-- (C03) `Export` of a builder that has kept `N` and `B` returns `squareOf`, or one tail padding share
    if nothing was kept -/
theorem export_kept (b : Builder) (N : List Bytes) (B : List BlobTx) (hk : Kept b N B)
    (hv : ∀ t ∈ B, ∀ bl ∈ t.blobs, bl.BlobValid)
    (hsz : 478 * (b.maxSquareSize * b.maxSquareSize) < 4294967296)
    (b' : Builder) (sq : List Bytes) (h : b.exportSquare = .ok (b', sq)) :
    (N = [] ∧ B = [] ∧ sq = [paddingShare tailPaddingNamespace 0] ∧ b' = b) ∨
    (¬ (N = [] ∧ B = []) ∧
      let ss := blobMinSquareSize (closedEstimate b.thr N B)
      sq = squareOf b.thr N B ss ∧
      b'.blobs = sortedElems b.thr B ∧ b'.pfbs = patched b.thr N B ∧ b'.txs = N ∧ b'.done = true ∧
      (compactSeq txNamespace N).length +
        (compactSeq payForBlobNamespace ((patched b.thr N B).map (·.marshal))).length ≤
        firstIdx b.thr (startOf N B) (sortedElems b.thr B) ∧
      firstIdx b.thr (startOf N B) (sortedElems b.thr B) +
        (region b.thr (startOf N B) none (sortedElems b.thr B)).length ≤ ss * ss ∧
      (compactSeq payForBlobNamespace ((patched b.thr N B).map (·.marshal))).length ≤ pfbShareCount B) := by
  by_cases hemp : N = [] ∧ B = []
  · obtain ⟨rfl, rfl⟩ := hemp
    rw [hk.exportSquare_nil] at h
    cases h
    exact Or.inl ⟨rfl, rfl, rfl, rfl⟩
  · obtain ⟨g0, g1, g2, eb, es⟩ := (hk.exportSquare_ok_iff hv hsz hemp b' sq).mp h
    rw [eb]
    exact Or.inr ⟨hemp, es, rfl, rfl, hk.txs, rfl, g1, g2, g0⟩

theorem Kept.exported {b b' : Builder} {N : List Bytes} {B : List BlobTx} {sq : List Bytes} (hk : Kept b N B)
    (hv : ∀ t ∈ B, ∀ bl ∈ t.blobs, bl.BlobValid)
    (hsz : 478 * (b.maxSquareSize * b.maxSquareSize) < 4294967296) (h : b.exportSquare = .ok (b', sq)) :
    b'.txs = N ∧ b'.pfbs = patched b.thr N B ∧ b'.blobs = sortedElems b.thr B := by
  rcases export_kept b N B hk hv hsz b' sq h with ⟨hN, hB, _, hb'⟩ | ⟨_, h2⟩
  · rw [hb', hk.pfbs, hk.blobs, hB]
    exact ⟨hk.txs, (List.eq_nil_of_length_eq_zero (patchAll_length ..)).symm, List.mergeSort_nil.symm⟩
  · exact ⟨h2.2.2.2.1, h2.2.2.1, h2.2.1⟩

end GoSquare
