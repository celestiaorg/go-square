import GoSquare.Properties.C08
import GoSquare.Model.Builder
/-! The loops of `Deconstruct` on a square in which every blob sits verbatim at its recorded index. -/
namespace GoSquare
open Spec

theorem parseBlobs_single (b : Blob) (hb : b.BlobValid) : parseBlobs (sparseSeq b) = .ok [b] := by
  have := C08.roundtrip [(b, 0)] 0 0 (by intro e he; simp at he; subst he; exact hb)
  simpa [C08.layout, parseBlobs] using this

def BlobAt (s : List Bytes) (idx : Nat) (b : Blob) : Prop :=
  idx + (sparseSeq b).length ≤ s.length ∧ (s.drop idx).take (sparseSeq b).length = sparseSeq b

/-- the share at the index is the blob's first share, so the share count computed from its version
    and the declared size is the blob's, and the slice parses back to the blob -/
theorem deconstructBlobs_cons {s : List Bytes} {idx : Nat} {b : Blob} (hb : b.BlobValid) (hat : BlobAt s idx b)
    (idxs sizes : List Nat) :
    deconstructBlobs s (idx :: idxs) (b.data.length :: sizes) =
      deconstructBlobs s idxs sizes >>= fun rest => .ok (b :: rest) := by
  obtain ⟨hle, heq⟩ := hat
  have hpos := sparseSeq_pos b
  have h1 : idx < s.length := Nat.lt_of_lt_of_le (Nat.lt_add_of_pos_right hpos) hle
  have hfirst : s.getD idx [] ∈ sparseSeq b := by
    have : s[idx]? = (sparseSeq b)[0]? := by rw [← heq, List.getElem?_take_of_lt hpos, List.getElem?_drop]; rfl
    rw [List.getD_eq_getElem?_getD, this]
    exact List.getElem_mem hpos
  have hslice : slice s idx (idx + (sparseSeq b).length) = .ok (sparseSeq b) := by
    unfold slice
    rw [if_pos ⟨Nat.le_add_right _ _, hle⟩, Nat.add_sub_cancel_left, heq]
  rw [deconstructBlobs]
  simp only [bind, Except.bind, (sparseSeq_mem b hb.valid _ hfirst).2.2,
    ← sparseSeq_length b hb.valid]
  rw [if_neg (Nat.not_le.mpr h1), if_neg (Nat.not_lt.mpr hle), hslice]
  simp only [parseBlobs_single b hb]

/-- (C02) the blob loop of `Deconstruct` on one wrapped PFB -/
theorem deconstructBlobs_spec (s : List Bytes) : ∀ (idxs : List Nat) (blobs : List Blob),
    idxs.length = blobs.length → (∀ b ∈ blobs, b.BlobValid) →
    (∀ (j idx : Nat) (b : Blob), idxs[j]? = some idx → blobs[j]? = some b → BlobAt s idx b) →
    deconstructBlobs s idxs (blobs.map (·.data.length)) = .ok blobs := by
  intro idxs
  induction idxs with
  | nil =>
    intro blobs hl _ _
    rw [List.length_eq_zero_iff.mp hl.symm]
    rfl
  | cons idx idxs ih =>
    intro blobs hl hv hat
    cases blobs with
    | nil => cases hl
    | cons b blobs =>
      rw [List.map_cons, deconstructBlobs_cons (hv b List.mem_cons_self) (hat 0 idx b rfl rfl),
        ih blobs (Nat.succ.inj hl) (fun x hx => hv x (List.mem_cons_of_mem _ hx)) (fun j i x h1 h2 => hat (j + 1) i x h1 h2)]
      rfl

/-- what the wrapped-PFB loop of `Deconstruct` needs of one wrapper and the blob transaction it stands for -/
structure PfbOK (s : List Bytes) (pfbDec : Bytes → Res (List Nat)) (iw : Proto.IndexWrapper) (blobs : List Blob)
    (raw : Bytes) : Prop where
  unwrap : unmarshalIndexWrapper iw.marshal = some iw
  nonEmpty : iw.shareIndexes.length ≠ 0
  len : iw.shareIndexes.length = blobs.length
  sizes : pfbDec iw.tx = .ok (blobs.map (·.data.length))
  valid : ∀ b ∈ blobs, b.BlobValid
  blobAt : ∀ (j idx : Nat) (b : Blob), iw.shareIndexes[j]? = some idx → blobs[j]? = some b → BlobAt s idx b
  marshal : marshalBlobTx iw.tx blobs = some raw

/-- (C02) the wrapped-PFB loop of `Deconstruct` -/
theorem deconstructPfbs_spec (s : List Bytes) (pfbDec : Bytes → Res (List Nat)) :
    ∀ (ws : List (Proto.IndexWrapper × List Blob × Bytes)),
    (∀ w ∈ ws, PfbOK s pfbDec w.1 w.2.1 w.2.2) →
    deconstructPfbs s pfbDec (ws.map (·.1.marshal)) = .ok (ws.map (·.2.2)) := by
  intro ws h
  induction ws with
  | nil => rfl
  | cons w ws ih =>
    have hw := h w List.mem_cons_self
    rw [List.map_cons, deconstructPfbs, hw.unwrap]
    simp only [bind, Except.bind, hw.sizes]
    rw [if_neg hw.nonEmpty, if_neg (by simp [hw.len])]
    simp only [deconstructBlobs_spec s w.1.shareIndexes w.2.1 hw.len hw.valid hw.blobAt, hw.marshal,
      ih (fun x hx => h x (List.mem_cons_of_mem _ hx)), List.map_cons]

theorem deconstructPfbs_of_forall (s : List Bytes) (pfbDec : Bytes → Res (List Nat)) (iws : List Proto.IndexWrapper)
    (raws : List Bytes) (blobsOf : Bytes → List Blob) (hlen : iws.length = raws.length)
    (h : ∀ (p : Nat) (iw : Proto.IndexWrapper) (raw : Bytes), iws[p]? = some iw → raws[p]? = some raw →
      PfbOK s pfbDec iw (blobsOf raw) raw) :
    deconstructPfbs s pfbDec (iws.map (·.marshal)) = .ok raws := by
  have := deconstructPfbs_spec s pfbDec ((iws.zip raws).map (fun x => (x.1, blobsOf x.2, x.2))) (by
    intro w hw
    obtain ⟨x, hx, rfl⟩ := List.mem_map.mp hw
    obtain ⟨p, hp, rfl⟩ := List.mem_iff_getElem.mp hx
    rw [List.length_zip, hlen, Nat.min_self] at hp
    rw [List.getElem_zip]
    exact h p _ _ (List.getElem?_eq_getElem (hlen ▸ hp)) (List.getElem?_eq_getElem hp))
  rw [List.map_map, List.map_map] at this
  change deconstructPfbs s pfbDec (List.map (Proto.IndexWrapper.marshal ∘ Prod.fst) _) = .ok (List.map Prod.snd _) at this
  rwa [← List.map_map, List.map_fst_zip (Nat.le_of_eq hlen), List.map_snd_zip (Nat.le_of_eq hlen.symm)] at this

end GoSquare
