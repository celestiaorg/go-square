import GoSquare.Proofs.Bytes
import GoSquare.Model.Proto
/-! The modelled protobuf wire codec (C19): the decoder parses the encoding of well-formed fields back to that
    list (`parseFields_enc`); a message's `applyField` folded over an encoder's field list (`foldlM_opt…`). -/
namespace GoSquare
namespace Proto

def encField : Nat × Val → Bytes
  | (num, .bytes v) => tagBytes num 2 ++ uvarint v.length ++ v
  | (num, .varint v) => tagBytes num 0 ++ uvarint v
  | _ => []

/-- `536870911 = 2^29 - 1`: the largest field number of `nextField`; `2 ^ 63`: the range of `readUvarint_uvarint` -/
def FieldOk : Nat × Val → Prop
  | (num, .bytes v) => 1 ≤ num ∧ num ≤ 536870911 ∧ v.length < 2 ^ 63
  | (num, .varint v) => 1 ≤ num ∧ num ≤ 536870911 ∧ v < 2 ^ 63
  | _ => False

theorem consumeVarint_uvarint (n : Nat) (h : n < 2 ^ 63) (rest : Bytes) :
    consumeVarint (uvarint n ++ rest) = some (n, rest) := by
  unfold consumeVarint
  rw [readUvarint_uvarint n h rest]
  simp only
  rw [← uvarint_length, List.drop_left]

theorem consumeVarint_tag (num typ : Nat) (h2 : num ≤ 536870911) (ht : typ < 8) (rest : Bytes) :
    consumeVarint (tagBytes num typ ++ rest) = some (num * 8 + typ, rest) ∧
      (num * 8 + typ) / 8 = num ∧ (num * 8 + typ) % 8 = typ :=
  ⟨consumeVarint_uvarint _ (by omega) rest, by omega, by omega⟩

theorem nextField_encField (f : Nat × Val) (hf : FieldOk f) (rest : Bytes) :
    ∃ typ, nextField (encField f ++ rest) = some (f.1, typ, f.2, rest) := by
  obtain ⟨num, v⟩ := f
  cases v with
  | bytes b =>
    obtain ⟨h1, h2, h3⟩ := hf
    obtain ⟨e0, e1, e2⟩ := consumeVarint_tag num 2 h2 (by omega) (uvarint b.length ++ (b ++ rest))
    have hr : ¬ (num < 1 ∨ num > 536870911) := by omega
    simp only [encField, List.append_assoc, nextField, e0, e1, hr, consumeBytes,
      consumeVarint_uvarint _ h3]
    simp
  | varint x =>
    obtain ⟨h1, h2, h3⟩ := hf
    obtain ⟨e0, e1, e2⟩ := consumeVarint_tag num 0 h2 (by omega) (uvarint x ++ rest)
    have hr : ¬ (num < 1 ∨ num > 536870911) := by omega
    simp only [encField, List.append_assoc, nextField, e0, e1, hr, consumeVarint_uvarint _ h3]
    simp
  | fixed64 => exact hf.elim
  | fixed32 => exact hf.elim
  | group => exact hf.elim

theorem fuelled_enc {α : Type} {loop : Nat → Bytes → Option (List α)} {next : Bytes → Option (α × Bytes)}
    {enc : α → Bytes} {P : α → Prop}
    (hloop : ∀ n b, loop (n + 1) b =
      if b.length = 0 then some [] else (next b).bind fun xr => (loop n xr.2).map (xr.1 :: ·))
    (hnil : next [] = none) (hnext : ∀ x rest, P x → next (enc x ++ rest) = some (x, rest)) :
    ∀ (xs : List α) (fuel : Nat), (∀ x ∈ xs, P x) → ((xs.map enc).flatten).length < fuel →
      loop fuel ((xs.map enc).flatten) = some xs
  | _, 0, _, h => by omega
  | [], n + 1, _, _ => by rw [hloop]; rfl
  | x :: xs, n + 1, hP, h => by
    have hx := hP x List.mem_cons_self
    have hpos : 0 < (enc x).length :=
      List.length_pos_iff.mpr fun e => by simpa [e, hnil] using hnext x [] hx
    simp only [List.map_cons, List.flatten_cons, List.length_append] at h ⊢
    rw [hloop, if_neg (by rw [List.length_append]; omega), hnext x _ hx, Option.bind_some,
      fuelled_enc hloop hnil hnext xs n (fun y hy => hP y (List.mem_cons_of_mem _ hy)) (by omega)]
    rfl

theorem parseFields_enc (fs : List (Nat × Val)) (hok : ∀ f ∈ fs, FieldOk f) :
    parseFields ((fs.map encField).flatten) = some fs :=
  fuelled_enc (next := fun b => (nextField b).map fun (num, _, v, rest) => ((num, v), rest))
    (fun n b => by rw [fields]; cases nextField b <;> rfl) rfl
    (fun f rest hf => by obtain ⟨typ, hn⟩ := nextField_encField f hf rest; rw [hn]; rfl)
    fs _ hok (Nat.lt_succ_self _)

/-- proto3 omits zero values -/
def optBytes (num : Nat) (v : Bytes) : List (Nat × Val) := if v.length = 0 then [] else [(num, .bytes v)]
def optVarint (num v : Nat) : List (Nat × Val) := if v = 0 then [] else [(num, .varint v)]

theorem encBytesField_eq (num : Nat) (v : Bytes) : encBytesField num v = ((optBytes num v).map encField).flatten := by
  unfold encBytesField optBytes; split <;> simp [encField]
theorem encVarintField_eq (num v : Nat) : encVarintField num v = ((optVarint num v).map encField).flatten := by
  unfold encVarintField optVarint; split <;> simp [encField]

theorem forall_mem_opt {α} {c : Prop} [Decidable c] {x : α} {P : α → Prop} (h : P x) :
    ∀ f ∈ (if c then [] else [x]), P f := by
  split
  · nofun
  · intro f hf
    cases List.mem_singleton.mp hf
    exact h

theorem foldlM_append_some {α σ} {f : σ → α → Option σ} {l l' : List α} {s s' : σ} {r : Option σ}
    (h : l.foldlM f s = some s') (h' : l'.foldlM f s' = r) : (l ++ l').foldlM f s = r := by
  rw [List.foldlM_append, h]; exact h'

/-- `h0`: the component is still at its default, so the omitted empty field decodes like a written one -/
theorem foldlM_optBytes {σ} {step : σ → Nat × Val → Option σ} {num : Nat} {v : Bytes} {s s' : σ}
    (h0 : step s (num, .bytes []) = some s) (hv : step s (num, .bytes v) = some s') :
    (optBytes num v).foldlM step s = some s' := by
  unfold optBytes
  split
  · next h =>
    rw [List.eq_nil_of_length_eq_zero h, h0] at hv
    exact hv
  · rw [List.foldlM_cons, hv]; rfl

theorem foldlM_optVarint {σ} {step : σ → Nat × Val → Option σ} {num v : Nat} {s s' : σ}
    (h0 : step s (num, .varint 0) = some s) (hv : step s (num, .varint v) = some s') :
    (optVarint num v).foldlM step s = some s' := by
  unfold optVarint
  split
  · next h =>
    rw [h, h0] at hv
    exact hv
  · rw [List.foldlM_cons, hv]; rfl

theorem foldlM_concat_some {α σ} {f : σ → α → Option σ} {l : List α} {x : α} {s w : σ}
    (h : (l ++ [x]).foldlM f s = some w) : ∃ s', f s' x = some w := by
  rw [List.foldlM_append] at h
  obtain ⟨s', -, hx⟩ := Option.bind_eq_some_iff.mp h
  exact ⟨s', by simpa using hx⟩

theorem flatten_map_append {α β} (f : α → List β) (a b : List α) :
    ((a ++ b).map f).flatten = (a.map f).flatten ++ (b.map f).flatten := by simp

end Proto
end GoSquare
