import GoSquare.Proofs.Proto
import GoSquare.Proofs.SparseParse
/-! C19: the three protobuf messages (`proto.Marshal` / `proto.Unmarshal` on the modelled codec) and the go-square
    API over them. Each `marshal` is the encoding of a field list, which the parser reads back (`blob_parse`,
    `iw_parse`, `btx_parse`) and over which `unmarshal` folds `applyField` again. -/
namespace GoSquare.C19
open GoSquare.Proto

def blobFields (p : BlobProto) : List (Nat × Val) :=
  optBytes 1 p.namespaceId ++ optBytes 2 p.data ++ optVarint 3 p.shareVersion ++ optVarint 4 p.namespaceVersion ++
    optBytes 5 p.signer

/-- Go lengths are `int`s, the two version fields `uint32`s -/
structure SmallBlob (p : BlobProto) : Prop where
  ns : p.namespaceId.length < 2 ^ 63
  data : p.data.length < 2 ^ 63
  signer : p.signer.length < 2 ^ 63
  sv : p.shareVersion < 4294967296
  nv : p.namespaceVersion < 4294967296

theorem blob_parse (p : BlobProto) (hs : SmallBlob p) : parseFields p.marshal = some (blobFields p) := by
  have e : p.marshal = ((blobFields p).map encField).flatten := by
    simp only [BlobProto.marshal, blobFields, encBytesField_eq, encVarintField_eq, flatten_map_append]
  have b32 : (4294967296 : Nat) ≤ 2 ^ 63 := by decide
  rw [e]
  refine parseFields_enc _ ?_
  simp only [blobFields, List.forall_mem_append]
  exact ⟨⟨⟨⟨forall_mem_opt ⟨by decide, by decide, hs.ns⟩, forall_mem_opt ⟨by decide, by decide, hs.data⟩⟩,
    forall_mem_opt ⟨by decide, by decide, Nat.lt_of_lt_of_le hs.sv b32⟩⟩,
    forall_mem_opt ⟨by decide, by decide, Nat.lt_of_lt_of_le hs.nv b32⟩⟩,
    forall_mem_opt ⟨by decide, by decide, hs.signer⟩⟩

theorem blobFields_fold (p : BlobProto) :
    (blobFields p).foldlM BlobProto.applyField {} =
      some { p with shareVersion := u32v p.shareVersion, namespaceVersion := u32v p.namespaceVersion } :=
  foldlM_append_some (foldlM_append_some (foldlM_append_some (foldlM_append_some
    (foldlM_optBytes rfl rfl) (foldlM_optBytes rfl rfl)) (foldlM_optVarint rfl rfl)) (foldlM_optVarint rfl rfl))
    (foldlM_optBytes rfl rfl)

/-- **C19 (BlobProto wire round trip).** `proto.Unmarshal(proto.Marshal(p))` gives `p`, within `SmallBlob`. -/
theorem blobProto_roundtrip (p : BlobProto) (hs : SmallBlob p) : BlobProto.unmarshal p.marshal = some p := by
  unfold BlobProto.unmarshal
  rw [blob_parse p hs]
  simp only [blobFields_fold, u32v, Nat.mod_eq_of_lt hs.sv, Nat.mod_eq_of_lt hs.nv]

theorem packedU32_roundtrip (idx : List Nat) (h : ∀ v ∈ idx, v < 4294967296) :
    packedU32 (((idx.map uvarint).flatten).length + 1) ((idx.map uvarint).flatten) = some idx :=
  fuelled_enc (next := fun b => (consumeVarint b).map fun (v, rest) => (u32v v, rest))
    (fun n b => by rw [packedU32]; cases consumeVarint b <;> rfl) rfl
    (fun v rest (hv : v < 4294967296) => by
      simp only [consumeVarint_uvarint v (by omega), Option.map_some, u32v, Nat.mod_eq_of_lt hv])
    idx _ h (Nat.lt_succ_self _)

/-- makes the packed field of `IndexWrapper.marshal` an ordinary `optBytes` (`iwFields`) -/
theorem packed_length_eq_zero (idx : List Nat) : ((idx.map uvarint).flatten).length = 0 ↔ idx.length = 0 := by
  rw [packed_length]
  cases idx with
  | nil => exact Iff.rfl
  | cons v vs =>
    have := uvarintLen_pos v
    rw [List.map_cons, List.sum_cons, List.length_cons]
    omega

def iwFields (w : IndexWrapper) : List (Nat × Val) :=
  optBytes 1 w.tx ++ optBytes 2 (w.shareIndexes.map uvarint).flatten ++ optBytes 3 w.typeId

structure SmallIW (w : IndexWrapper) : Prop where
  tx : w.tx.length < 2 ^ 63
  idx : ∀ v ∈ w.shareIndexes, v < 4294967296
  packed : ((w.shareIndexes.map uvarint).flatten).length < 2 ^ 63
  typeLen : w.typeId.length < 2 ^ 63
  typeUtf8 : utf8Valid w.typeId = true

theorem iw_parse (w : IndexWrapper) (hs : SmallIW w) : parseFields w.marshal = some (iwFields w) := by
  have e : w.marshal = ((iwFields w).map encField).flatten := by
    simp only [IndexWrapper.marshal, iwFields, flatten_map_append, ← encBytesField_eq]
    simp only [encBytesField, packed_length_eq_zero]
  rw [e]
  refine parseFields_enc _ ?_
  simp only [iwFields, List.forall_mem_append]
  exact ⟨⟨forall_mem_opt ⟨by decide, by decide, hs.tx⟩, forall_mem_opt ⟨by decide, by decide, hs.packed⟩⟩,
    forall_mem_opt ⟨by decide, by decide, hs.typeLen⟩⟩

/-- **C19 (IndexWrapper wire round trip).** Within `SmallIW`: share indexes below 2^32, a UTF-8 type id. -/
theorem indexWrapper_roundtrip (w : IndexWrapper) (hs : SmallIW w) : IndexWrapper.unmarshal w.marshal = some w := by
  unfold IndexWrapper.unmarshal
  rw [iw_parse w hs]
  have hp := packedU32_roundtrip w.shareIndexes hs.idx
  exact foldlM_append_some (foldlM_append_some
    (foldlM_optBytes rfl rfl)
    (foldlM_optBytes rfl (by rw [IndexWrapper.applyField, hp]; rfl)))
    (foldlM_optBytes rfl (by rw [IndexWrapper.applyField, hs.typeUtf8]; rfl))

theorem smallIW_new {tx : Bytes} {idx : List Nat} (h1 : tx.length < 2 ^ 63)
    (h2 : ∀ v ∈ idx, v < 4294967296) (h3 : ((idx.map uvarint).flatten).length < 2 ^ 63) :
    SmallIW (newIndexWrapper tx idx) :=
  ⟨h1, h2, h3, (by show indexWrapperTypeId.length < 2 ^ 63; decide), (by show utf8Valid indexWrapperTypeId = true; decide)⟩

/-- **C19 (index wrapper through the go-square API).** `tx.UnmarshalIndexWrapper(tx.MarshalIndexWrapper(tx, idx…))`. -/
theorem unmarshalIndexWrapper_marshal (tx : Bytes) (idx : List Nat) (h1 : tx.length < 2 ^ 63)
    (h2 : ∀ v ∈ idx, v < 4294967296) (h3 : ((idx.map uvarint).flatten).length < 2 ^ 63) :
    unmarshalIndexWrapper (marshalIndexWrapper tx idx) = some (newIndexWrapper tx idx) := by
  unfold unmarshalIndexWrapper marshalIndexWrapper
  rw [indexWrapper_roundtrip _ (smallIW_new h1 h2 h3)]
  simp [newIndexWrapper]

def btxFields (p : BlobTxProto) : List (Nat × Val) :=
  optBytes 1 p.tx ++ p.blobs.map (fun b => (2, Val.bytes b.marshal)) ++ optBytes 3 p.typeId

structure SmallBTx (p : BlobTxProto) : Prop where
  tx : p.tx.length < 2 ^ 63
  blobs : ∀ b ∈ p.blobs, SmallBlob b ∧ b.marshal.length < 2 ^ 63
  typeLen : p.typeId.length < 2 ^ 63
  typeUtf8 : utf8Valid p.typeId = true

theorem btx_parse (p : BlobTxProto) (hs : SmallBTx p) : parseFields p.marshal = some (btxFields p) := by
  have e : p.marshal = ((btxFields p).map encField).flatten := by
    simp only [BlobTxProto.marshal, btxFields, encBytesField_eq, flatten_map_append, List.map_map]
    congr 2
  rw [e]
  refine parseFields_enc _ ?_
  simp only [btxFields, List.forall_mem_append, List.forall_mem_map]
  exact ⟨⟨forall_mem_opt ⟨by decide, by decide, hs.tx⟩, fun b hb => ⟨by decide, by decide, (hs.blobs b hb).2⟩⟩,
    forall_mem_opt ⟨by decide, by decide, hs.typeLen⟩⟩

theorem foldl_blobs : ∀ (bs : List BlobProto) (p : BlobTxProto), (∀ b ∈ bs, SmallBlob b) →
    (bs.map (fun b => (2, Val.bytes b.marshal))).foldlM BlobTxProto.applyField p = some { p with blobs := p.blobs ++ bs }
  | [], p, _ => by simp
  | b :: bs, p, h => by
    simp only [List.map_cons, List.foldlM_cons, BlobTxProto.applyField, blobProto_roundtrip b (h b (by simp)),
      Option.map_some, bind, Option.bind]
    rw [foldl_blobs bs _ (fun x hx => h x (by simp [hx]))]
    simp [List.append_assoc]

/-- **C19 (BlobTx wire round trip).** Within `SmallBTx`: its blobs within `SmallBlob`, a UTF-8 type id. -/
theorem blobTxProto_roundtrip (p : BlobTxProto) (hs : SmallBTx p) : BlobTxProto.unmarshal p.marshal = some p := by
  unfold BlobTxProto.unmarshal
  rw [btx_parse p hs]
  exact foldlM_append_some (foldlM_append_some
    (foldlM_optBytes rfl rfl)
    (foldl_blobs p.blobs _ (fun b hb => (hs.blobs b hb).1)))
    (foldlM_optBytes rfl (by rw [BlobTxProto.applyField, hs.typeUtf8]; rfl))

theorem fromProto_eq_some_iff {pb : BlobProto} {b : Blob} :
    Blob.fromProto pb = some b ↔
      pb.namespaceVersion ≤ 255 ∧ pb.shareVersion ≤ 127 ∧
      ∃ ns, Ns.new pb.namespaceVersion.toUInt8 pb.namespaceId = some ns ∧
        Blob.new ns pb.data pb.shareVersion (if pb.signer.length = 0 then none else some pb.signer) = some b := by
  unfold Blob.fromProto
  cases Ns.new pb.namespaceVersion.toUInt8 pb.namespaceId <;> simp

/-- a blob as the protobuf route can carry it: valid (C08) in a well-formed namespace -/
structure ProtoBlob (b : Blob) : Prop where
  valid : b.BlobValid
  nsValid : Ns.validate b.ns = true

theorem fromProto_toProto (b : Blob) (hb : ProtoBlob b) : Blob.fromProto (Blob.toProto b) = some b := by
  have hv := hb.valid.valid
  have h255 : ¬ b.toProto.namespaceVersion > 255 := by
    have := (b.ns.headD 0).toNat_lt
    show ¬ (b.ns.headD 0).toNat > 255
    omega
  have h127 : ¬ b.toProto.shareVersion > 127 := by
    show ¬ b.ver > 127
    rcases hv.ver with h | h <;> omega
  have hns : Ns.new b.toProto.namespaceVersion.toUInt8 b.toProto.namespaceId = some b.ns := by
    have hval := hb.nsValid
    cases hn : b.ns with
    | nil => have := hv.nsLen; rw [hn] at this; cases this
    | cons h t => rw [hn] at hval; simp [Blob.toProto, Ns.new, Ns.version, Ns.id, hn, hval]
  have hsig : (if b.toProto.signer.length = 0 then none else some b.toProto.signer) = b.signer := by
    show (if (b.signer.getD []).length = 0 then none else some (b.signer.getD [])) = b.signer
    rcases hv.ver with h | h
    · rw [hv.signer.1 h]; rfl
    · obtain ⟨s, hs, hl⟩ := hv.signer.2 h
      simp [hs, hl]
  rw [Blob.fromProto, if_neg h255, if_neg h127, hns, hsig]
  exact Blob.new_of_blobValid hb.valid

theorem mapM_fromProto : ∀ (blobs : List Blob), (∀ b ∈ blobs, ProtoBlob b) →
    (blobs.map Blob.toProto).mapM Blob.fromProto = some blobs
  | [], _ => rfl
  | b :: bs, h => by
    rw [List.map_cons, List.mapM_cons, fromProto_toProto b (h b (by simp)),
      mapM_fromProto bs (fun x hx => h x (by simp [hx]))]
    rfl

theorem marshalBlobTx_eq_some_iff {tx : Bytes} {blobs : List Blob} {bytes : Bytes} :
    marshalBlobTx tx blobs = some bytes ↔ blobs ≠ [] ∧ (∀ b ∈ blobs, b.data ≠ []) ∧
      ({ tx, blobs := blobs.map Blob.toProto, typeId := blobTxTypeId } : BlobTxProto).marshal = bytes := by
  unfold marshalBlobTx
  rw [Option.ite_none_left_eq_some, Option.ite_none_left_eq_some]
  simp only [List.length_eq_zero_iff, List.any_eq_true, decide_eq_true_eq, not_exists, not_and, Option.some.injEq]

/-- **C19 (blob transaction round trip).** `tx.UnmarshalBlobTx(tx.MarshalBlobTx(tx, blobs…))`. -/
theorem unmarshalBlobTx_marshal (tx : Bytes) (blobs : List Blob) (hne : blobs ≠ [])
    (hb : ∀ b ∈ blobs, ProtoBlob b)
    (hs : SmallBTx { tx, blobs := blobs.map Blob.toProto, typeId := blobTxTypeId }) :
    ∃ bytes, marshalBlobTx tx blobs = some bytes ∧ unmarshalBlobTx bytes = .blobTx { tx, blobs } := by
  refine ⟨_, marshalBlobTx_eq_some_iff.mpr ⟨hne, fun b hbm e => ?_, rfl⟩, ?_⟩
  · have := (hb b hbm).valid.valid.dataPos
    rw [e] at this
    cases this
  · unfold unmarshalBlobTx
    rw [blobTxProto_roundtrip _ hs]
    have h2 : ¬ (blobs.map Blob.toProto).length = 0 := by
      rw [List.length_map, List.length_eq_zero_iff]
      exact hne
    simp only [ne_eq, not_true_eq_false, if_false, h2, mapM_fromProto blobs hb]

end GoSquare.C19
