import GoSquare.Proofs.Compact
/-! C12, the splitter half: the range the compact splitter records for a transaction is exactly the set of shares
    holding a byte of the transaction's length-prefixed encoding, from the share of its first byte to one past the
    share of its last byte. (The builder's `FindTxShareRange` / `BlobShareRange`: `Proofs/TxRange.lean`,
    `Proofs/BlobRange.lean`.) -/
namespace GoSquare.C12
open Spec

def shareOf (off : Nat) : Nat := (posOf off).1

theorem shareOf_closed_form (off : Nat) : shareOf off = if off < 474 then 0 else 1 + (off - 474) / 478 := by
  unfold shareOf posOf; split <;> rfl

theorem shareOf_eq (off : Nat) : shareOf off = (off + 4) / 478 := posOf_fst off

theorem shareOf_mono {a b : Nat} (h : a ≤ b) : shareOf a ≤ shareOf b := by
  rw [shareOf_eq, shareOf_eq]
  exact Nat.div_le_div_right (Nat.add_le_add_right h 4)

/-- one past the share of the last byte = the share count of the stream up to that byte -/
theorem sharesNeeded_eq_shareOf_last (T : Nat) (h : 1 ≤ T) : compactSharesNeeded T = shareOf (T - 1) + 1 := by
  obtain ⟨t, rfl⟩ := Nat.exists_eq_add_of_le' h
  rw [← sizeOf_eq_compactSharesNeeded, sizeOf_eq, shareOf_eq]
  exact Nat.add_div_right (t + 4) (z := 478) (by decide)  -- `t + 1 + 481 = t + 4 + 478`

/-- **C12 (splitter ranges).** The bytes of `u` are the stream offsets `[T, T + len)`: `T` the bytes written before,
    `len` the varint prefix and the body. -/
theorem splitter_range_exact (ns x : Bytes) (hc : CompactNs ns) (c : CompactSplitter) (units : List Bytes) (u : Bytes)
    (h : Normal ns x c units) :
    ∃ c', c.writeTx u = .ok c' ∧
      c'.ranges = CompactSplitter.setRange c.ranges u
        (shareOf (unitStream units).length,
         shareOf ((unitStream units).length + (uvarintLen u.length + u.length) - 1) + 1) := by
  obtain ⟨c', hw, hN', hr⟩ := writeTx_spec ns x hc c units u h
  have hpos := uvarintLen_pos u.length
  refine ⟨c', hw, ?_⟩
  rw [hr, h.1.length, count_spec ns x hc c' _ hN', unitStream_append, List.length_append, List.length_append,
    uvarint_length, sharesNeeded_eq_shareOf_last _ (by omega)]
  rfl

end GoSquare.C12
