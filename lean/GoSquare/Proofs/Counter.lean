import GoSquare.Proofs.Arith
/-! The closed-form position of a compact sequence, the share counts in closed form, and the three phases
    of `Counter.add` against them (C13; the builder and the compact writer count with the same forms). -/
namespace GoSquare

/-- (stacked shares, bytes in the pending share) after `T` bytes of a compact sequence; 474, 478: share/consts.go -/
def posOf (T : Nat) : Nat × Nat :=
  if T < 474 then (0, T) else (1 + (T - 474) / 478, (T - 474) % 478)

/-- shares that a compact sequence of `T` bytes occupies -/
def sizeOf (T : Nat) : Nat := if (posOf T).2 = 0 then (posOf T).1 else (posOf T).1 + 1

/-- a counter that has counted `T` bytes (the `last*` fields are free) -/
def Counter.At (c : Counter) (T : Nat) : Prop := c.shares = (posOf T).1 ∧ c.remainder = (posOf T).2

/-! With the 4 bytes that the first share lacks put in front, every share holds 478: `posOf_fst`, `posOf_snd` and
    `sizeOf_eq` are what the arithmetic about `posOf` and `sizeOf` is done with, here and downstream, by `omega`. -/

theorem posOf_of_lt {T : Nat} (h : T < 474) : posOf T = (0, T) := if_pos h

theorem posOf_add (x : Nat) : posOf (474 + x) = (1 + x / 478, x % 478) := by
  rw [posOf, if_neg (Nat.not_lt.2 (Nat.le_add_right ..)), Nat.add_sub_cancel_left]

theorem posOf_eq (T : Nat) : posOf T = ((T + 4) / 478, if T < 474 then T else (T + 4) % 478) := by
  rcases Nat.lt_or_ge T 474 with h | h
  · rw [posOf_of_lt h, if_pos h, Nat.div_eq_of_lt (by omega)]
  · obtain ⟨x, rfl⟩ := Nat.exists_eq_add_of_le h
    rw [posOf_add, if_neg (Nat.not_lt.2 h), show 474 + x + 4 = x + 478 by omega, Nat.add_div_right _ (by decide),
      Nat.add_mod_right, Nat.add_comm]

theorem posOf_fst (T : Nat) : (posOf T).1 = (T + 4) / 478 := congrArg Prod.fst (posOf_eq T)

theorem posOf_snd (T : Nat) : (posOf T).2 = if T < 474 then T else (T + 4) % 478 := congrArg Prod.snd (posOf_eq T)

theorem posOf_rem_lt (T : Nat) : (posOf T).2 < 478 := by
  rw [posOf_snd]; split <;> omega

theorem posOf_first_lt (T : Nat) (h : (posOf T).1 = 0) : (posOf T).2 < 474 := by
  rw [posOf_fst] at h; rw [posOf_snd]; split <;> omega

/-- the shape of `CompactSharesNeeded` and `SparseSharesNeededWithSigner`: a first share of `first` bytes, then `k` -/
theorem sharesNeeded_eq (n first k : Nat) (hf : first < k) :
    (if n = 0 then 0 else if n < first then 1 else
      1 + if (n - first) % k > 0 then (n - first) / k + 1 else (n - first) / k)
    = if n = 0 then 0 else (n + (2 * k - 1 - first)) / k := by
  have hk : 0 < k := Nat.zero_lt_of_lt hf
  -- with the `e + 1 = k - first` bytes that the first share lacks put in front, every share holds `k`
  obtain ⟨e, rfl⟩ := Nat.exists_eq_add_of_lt hf
  by_cases h0 : n = 0
  · rw [if_pos h0, if_pos h0]
  · rw [if_neg h0, if_neg h0, show 2 * (first + e + 1) - 1 - first = e + (first + e + 1) by omega, ← Nat.add_assoc,
      Nat.add_div_right _ hk]
    by_cases h : n < first
    · rw [if_pos h, Nat.div_eq_of_lt (by omega)]
    · obtain ⟨x, rfl⟩ := Nat.exists_eq_add_of_le (Nat.le_of_not_lt h)
      rw [if_neg h, Nat.add_sub_cancel_left, ceilDiv_if _ _ hk, ← Nat.add_assoc x, Nat.add_sub_cancel, Nat.add_comm 1,
        Nat.add_right_comm first x, Nat.add_comm x]

/-- the shape of the two `AvailableBytesFrom…Shares` -/
theorem availableBytes_succ (m first k : Nat) :
    (if m + 1 = 0 then 0 else if m + 1 = 1 then first else (m + 1 - 1) * k + first) = k * m + first := by
  rw [if_neg (Nat.succ_ne_zero m), Nat.mul_comm]
  split
  · rw [Nat.succ.inj ‹m + 1 = 1›, Nat.mul_zero, Nat.zero_add]
  · rfl

theorem sizeOf_eq_compactSharesNeeded (T : Nat) : sizeOf T = compactSharesNeeded T := by
  unfold sizeOf compactSharesNeeded
  rcases Nat.lt_or_ge T 474 with h | h
  · rw [posOf_of_lt h, if_pos h]
  · obtain ⟨x, rfl⟩ := Nat.exists_eq_add_of_le h
    simp only
    rw [posOf_add, if_neg (Nat.not_lt.2 h), if_neg (Nat.ne_of_gt (Nat.lt_of_lt_of_le (by decide) h)),
      Nat.add_sub_cancel_left]
    by_cases h0 : x % 478 = 0
    · rw [if_pos h0, if_neg (Nat.not_lt.2 (Nat.le_of_eq h0))]
    · rw [if_neg h0, if_pos (Nat.pos_of_ne_zero h0)]
      rfl

theorem sizeOf_eq (T : Nat) : sizeOf T = if T = 0 then 0 else (T + 481) / 478 :=
  (sizeOf_eq_compactSharesNeeded T).trans (sharesNeeded_eq T 474 478 (by decide))

theorem sizeOf_mono {a b : Nat} (h : a ≤ b) : sizeOf a ≤ sizeOf b := by
  rw [sizeOf_eq, sizeOf_eq]
  split
  · exact Nat.zero_le _
  · rw [if_neg (by omega)]
    exact Nat.div_le_div_right (Nat.add_le_add_right h 481)

theorem sizeOf_eq_zero {T : Nat} : sizeOf T = 0 ↔ T = 0 := by
  rw [sizeOf_eq]; split <;> omega

theorem Counter.At.size {c : Counter} {T : Nat} (h : c.At T) : c.size = sizeOf T := by
  unfold Counter.size sizeOf; rw [h.1, h.2]

/-- 478 (458 after a 20-byte signer), 482: share/consts.go; `485 = 2·482 − 1 − 478`, `505 = 2·482 − 1 − 458` -/
theorem sparseSharesNeededWithSigner_eq (n : Nat) (b : Bool) :
    sparseSharesNeededWithSigner n b = if n = 0 then 0 else (n + if b then 505 else 485) / 482 := by
  cases b
  · exact sharesNeeded_eq n 478 482 (by decide)
  · exact sharesNeeded_eq n 458 482 (by decide)

theorem Counter.advance_cont (s r d : Nat) (hs : s ≠ 0) (hr : r < 478) :
    Counter.advance s r d = (s + (r + d) / 478, (r + d) % 478) := by
  by_cases hB : d ≥ 478 - r
  · obtain ⟨x, rfl⟩ := Nat.exists_eq_add_of_le hB
    rw [← Nat.add_assoc r, Nat.add_sub_cancel' (Nat.le_of_lt hr), Nat.add_comm 478, Nat.add_div_right x (by decide),
      Nat.add_mod_right]
    simp only [Counter.advance, if_neg hs, if_pos hB, Nat.add_sub_cancel_left]
    split
    · rw [Nat.add_assoc, Nat.add_comm 1]
    · next h0 => rw [Nat.eq_zero_of_not_pos h0]
  · have e : r + d < 478 := Nat.add_lt_of_lt_sub' (Nat.lt_of_not_ge hB)
    simp only [Counter.advance, if_neg hs, if_neg hB, Nat.lt_irrefl, if_false, Nat.div_eq_of_lt e,
      Nat.mod_eq_of_lt e, Nat.add_zero]

theorem Counter.advance_first (r d : Nat) :
    Counter.advance 0 r d = if d ≥ 474 - r then Counter.advance 1 0 (d - (474 - r)) else (0, r + d) := by
  by_cases hA : d ≥ 474 - r
  · simp only [Counter.advance, if_pos hA, if_true, if_false, Nat.one_ne_zero]
  · have h : r + d < 478 := Nat.lt_trans (Nat.add_lt_of_lt_sub' (Nat.lt_of_not_ge hA)) (by decide)
    simp only [Counter.advance, if_neg hA, if_true, if_neg (Nat.not_le.2 (Nat.sub_pos_of_lt h)), Nat.lt_irrefl, if_false, Nat.add_zero]

theorem Counter.advance_pos (T d : Nat) : Counter.advance (posOf T).1 (posOf T).2 d = posOf (T + d) := by
  rcases Nat.lt_or_ge T 474 with h1 | h1
  · rw [posOf_of_lt h1, Counter.advance_first]
    by_cases h2 : d ≥ 474 - T
    · obtain ⟨x, rfl⟩ := Nat.exists_eq_add_of_le h2
      rw [if_pos h2, Nat.add_sub_cancel_left, ← Nat.add_assoc, Nat.add_sub_cancel' (Nat.le_of_lt h1), posOf_add,
        Counter.advance_cont 1 0 x (by decide) (by decide), Nat.zero_add]
    · rw [if_neg h2, posOf_of_lt (Nat.add_lt_of_lt_sub' (Nat.lt_of_not_ge h2))]
  · -- `T = 474 + y` with `y = 478 q + m`, and `advance_cont` adds `d` to `m`
    obtain ⟨y, rfl⟩ := Nat.exists_eq_add_of_le h1
    have e : y + d = 478 * (y / 478) + (y % 478 + d) := by rw [← Nat.add_assoc, Nat.div_add_mod]
    rw [posOf_add, Nat.add_assoc, posOf_add, Counter.advance_cont _ _ _ (Nat.add_comm .. ▸ Nat.succ_ne_zero _)
      (Nat.mod_lt _ (by decide)), e, Nat.mul_add_div (by decide), Nat.mul_add_mod, Nat.add_assoc]

theorem Counter.add_at (c : Counter) (T n : Nat) (h : c.At T) :
    (c.add n).1.At (T + (n + uvarintLen n)) ∧
    (c.add n).1.lastShares = c.shares ∧ (c.add n).1.lastRemainder = c.remainder := by
  obtain ⟨hs, hr⟩ := h
  unfold Counter.add Counter.At
  simp only
  rw [hs, hr, Counter.advance_pos]
  exact ⟨⟨rfl, rfl⟩, trivial, trivial⟩

def Counter.count (c : Counter) (l : List Nat) : Counter := l.foldl (fun c n => (c.add n).1) c

theorem Counter.count_at {c : Counter} {T : Nat} (h : c.At T) (l : List Nat) :
    (c.count l).At (T + (l.map fun n => n + uvarintLen n).sum) := by
  induction l generalizing c T with
  | nil => exact h
  | cons n l ih =>
    rw [List.map_cons, List.sum_cons, ← Nat.add_assoc]
    exact ih (Counter.add_at c T n h).1

theorem Counter.add_diff (c : Counter) (n : Nat) :
    (c.add n).2 = ((c.add n).1.size : Int) - (c.size : Int) := by
  unfold Counter.add Counter.size
  simp only
  generalize Counter.advance c.shares c.remainder (n + uvarintLen n) = p
  obtain ⟨s, r⟩ := p
  by_cases h1 : c.remainder = 0 <;> by_cases h2 : r = 0 <;> simp [h1, h2] <;> omega

end GoSquare
