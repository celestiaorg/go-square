import GoSquare.Proofs.Patched
/-! # C14 (builder half) — the exported square depends only on the accepted appends

Histories of appends (accepted or refused), `Export`s and queries, in any interleaving, against the
accepted appends alone: the real state stays `Equiv` to a reference state fed the accepted appends only
(`run_invariant`), and `Export` does not distinguish the two (`exportCore_equiv`). -/
namespace GoSquare.BuilderHistory
open Builder

/-- (C14) `Export` sorts the blobs in place and later appends go behind them; the order it leaves does
    not matter to the next stable sort -/
theorem mergeSort_append_congr {α : Type} {le : α → α → Bool}
    (trans : ∀ (a b c : α), le a b → le b c → le a c) (total : ∀ (a b : α), le a b || le b a)
    {A A' C : List α} (hn : (A ++ C).Nodup) (h : A.mergeSort le = A'.mergeSort le) :
    (A ++ C).mergeSort le = (A' ++ C).mergeSort le := by
  have hp : (A ++ C).Perm (A' ++ C) :=
    ((List.mergeSort_perm A le).symm.trans (h ▸ List.mergeSort_perm A' le)).append_right C
  rw [← StableSort.mergeSort_sort_prefix trans total hn, ← StableSort.mergeSort_sort_prefix trans total (hp.nodup hn), h]

/-- what `Export` never changes in a wrapped PFB: inner transaction, type id, number of share indexes -/
def frame (iw : Proto.IndexWrapper) : Bytes × Bytes × Nat := (iw.tx, iw.typeId, iw.shareIndexes.length)

theorem recordIn_congr {ws : List (Element × Nat)} {p : Nat} {iw iw' : Proto.IndexWrapper} (hf : frame iw = frame iw')
    (hcov : ∀ j, j < iw.shareIndexes.length → ∃ e ∈ ws.map (·.1), e.pfbIndex = p ∧ e.blobIndex = j) :
    recordIn ws p iw = recordIn ws p iw' := by
  obtain ⟨tx, si, ty⟩ := iw
  simp only [frame, Prod.mk.injEq] at hf
  obtain ⟨rfl, rfl, hlen⟩ := hf
  simp only [recordIn, Proto.IndexWrapper.mk.injEq, true_and, and_true]
  refine List.ext_getElem (by rw [List.length_mapIdx, List.length_mapIdx, hlen]) fun j h1 _ => ?_
  rw [List.getElem_mapIdx, List.getElem_mapIdx]
  exact recordedAt_congr (hcov j (by rw [List.length_mapIdx] at h1; exact h1)) _ _

/-- (C14) the recorded indexes do not depend on the index values held before, if the written elements
    cover every index position -/
theorem patchAll_congr (thr : Nat) (es : List Element) (cur : Nat) (P P' : List Proto.IndexWrapper)
    (hfr : P.map frame = P'.map frame)
    (hcov : ∀ p iw, P[p]? = some iw → ∀ j, j < iw.shareIndexes.length →
      ∃ e ∈ es, e.pfbIndex = p ∧ e.blobIndex = j) :
    patchAll thr cur es P = patchAll thr cur es P' := by
  have hlen : P.length = P'.length := by simpa using congrArg List.length hfr
  rw [patchAll_eq, patchAll_eq]
  refine List.ext_getElem (by rw [List.length_mapIdx, List.length_mapIdx, hlen]) fun p h1 h2 => ?_
  rw [List.length_mapIdx] at h1 h2
  rw [List.getElem_mapIdx, List.getElem_mapIdx]
  refine recordIn_congr ?_ fun j hj => ?_
  · have := List.getElem_of_eq hfr (by rwa [List.length_map])
    rwa [List.getElem_map, List.getElem_map] at this
  · rw [map_fst_zip_placeIdx]
    exact hcov p _ (List.getElem?_eq_getElem h1) j hj

theorem patchAll_frame_map (thr : Nat) (es : List Element) (cur : Nat) (P : List Proto.IndexWrapper) :
    (patchAll thr cur es P).map frame = P.map frame := by
  rw [patchAll_eq]
  exact map_mapIdx_const frame frame P _ fun p iw => by simp only [frame, recordIn, List.length_mapIdx]

/-- equal but for the `done` flag, the counters' undo fields, the share-index VALUES held in the wrapped
    PFBs, and the order of the blob elements up to stable sorting -/
structure Equiv (b r : Builder) : Prop where
  max : b.maxSquareSize = r.maxSquareSize
  thr : b.thr = r.thr
  size : b.currentSize = r.currentSize
  txs : b.txs = r.txs
  txS : b.txCounter.shares = r.txCounter.shares
  txR : b.txCounter.remainder = r.txCounter.remainder
  pfbS : b.pfbCounter.shares = r.pfbCounter.shares
  pfbR : b.pfbCounter.remainder = r.pfbCounter.remainder
  pfbs : b.pfbs.map frame = r.pfbs.map frame
  blobs : b.blobs.mergeSort elemLe = r.blobs.mergeSort elemLe

theorem Equiv.refl (b : Builder) : Equiv b b := ⟨rfl, rfl, rfl, rfl, rfl, rfl, rfl, rfl, rfl, rfl⟩

theorem Equiv.symm {a b : Builder} (h : Equiv a b) : Equiv b a :=
  ⟨h.max.symm, h.thr.symm, h.size.symm, h.txs.symm, h.txS.symm, h.txR.symm, h.pfbS.symm, h.pfbR.symm,
    h.pfbs.symm, h.blobs.symm⟩

theorem Equiv.trans {a b c : Builder} (h : Equiv a b) (g : Equiv b c) : Equiv a c :=
  ⟨h.max.trans g.max, h.thr.trans g.thr, h.size.trans g.size, h.txs.trans g.txs, h.txS.trans g.txS,
    h.txR.trans g.txR, h.pfbS.trans g.pfbS, h.pfbR.trans g.pfbR, h.pfbs.trans g.pfbs, h.blobs.trans g.blobs⟩

theorem Equiv.pfbs_length {a b : Builder} (h : Equiv a b) : a.pfbs.length = b.pfbs.length := by
  simpa using congrArg List.length h.pfbs

theorem counter_size_congr {c1 c2 : Counter} (hs : c1.shares = c2.shares) (hr : c1.remainder = c2.remainder) :
    c1.size = c2.size := by
  unfold Counter.size; rw [hs, hr]

theorem counter_add_congr {c1 c2 : Counter} (n : Nat) (hs : c1.shares = c2.shares) (hr : c1.remainder = c2.remainder) :
    c1.add n = c2.add n := by
  unfold Counter.add
  rw [hs, hr]

theorem appendTx_refused {b : Builder} {t : Bytes} (h : (b.appendTx t).2 = false) : Equiv (b.appendTx t).1 b := by
  rw [Builder.appendTx_eq] at h ⊢
  split at h
  · cases h
  · rw [if_neg ‹_›]; exact ⟨rfl, rfl, rfl, rfl, rfl, rfl, rfl, rfl, rfl, rfl⟩

theorem appendBlobTx_refused {b : Builder} {t : BlobTx} (h : (b.appendBlobTx t).2 = false) :
    Equiv (b.appendBlobTx t).1 b := by
  rw [Builder.appendBlobTx_eq] at h ⊢
  split at h
  · cases h
  · rw [if_neg ‹_›]; exact ⟨rfl, rfl, rfl, rfl, rfl, rfl, rfl, rfl, rfl, rfl⟩

theorem appendTx_equiv {b r : Builder} (t : Bytes) (h : Equiv b r) :
    (b.appendTx t).2 = (r.appendTx t).2 ∧ Equiv (b.appendTx t).1 (r.appendTx t).1 := by
  have hadd := counter_add_congr t.length h.txS h.txR
  rw [Builder.appendTx_eq b, Builder.appendTx_eq r, hadd, h.size, h.max]
  split
  · exact ⟨rfl, h.max, h.thr, by show b.currentSize + _ = r.currentSize + _; rw [h.size, hadd],
      by show b.txs ++ _ = r.txs ++ _; rw [h.txs], congrArg (·.1.shares) hadd, congrArg (·.1.remainder) hadd,
      h.pfbS, h.pfbR, h.pfbs, h.blobs⟩
  · exact ⟨rfl, h.max, h.thr, h.size, h.txs, h.txS, h.txR, h.pfbS, h.pfbR, h.pfbs, h.blobs⟩

theorem appendBlobTx_equiv {b r : Builder} (t : BlobTx) (h : Equiv b r)
    (hn : (r.blobs ++ elementsOf r.thr r.pfbs.length t).Nodup) :
    (b.appendBlobTx t).2 = (r.appendBlobTx t).2 ∧ Equiv (b.appendBlobTx t).1 (r.appendBlobTx t).1 := by
  have hadd := counter_add_congr (worstLen t) h.pfbS h.pfbR
  have hel : elementsOf b.thr b.pfbs.length t = elementsOf r.thr r.pfbs.length t := by
    rw [h.pfbs_length, h.thr]
  rw [Builder.appendBlobTx_eq b, Builder.appendBlobTx_eq r, hadd, h.size, h.max, hel]
  split
  · refine ⟨rfl, h.max, h.thr, ?_, h.txs, h.txS, h.txR, congrArg (·.1.shares) hadd,
      congrArg (·.1.remainder) hadd, ?_, ?_⟩
    · show b.currentSize + ((b.pfbCounter.add (worstLen t)).2 + _) = r.currentSize + ((r.pfbCounter.add (worstLen t)).2 + _)
      rw [h.size, hadd, hel]
    · show (b.pfbs ++ _).map frame = (r.pfbs ++ _).map frame
      rw [List.map_append, List.map_append, h.pfbs]
    · show (b.blobs ++ elementsOf b.thr b.pfbs.length t).mergeSort elemLe =
        (r.blobs ++ elementsOf r.thr r.pfbs.length t).mergeSort elemLe
      rw [hel]
      exact (mergeSort_append_congr elemLe_trans elemLe_total hn h.blobs.symm).symm
  · exact ⟨rfl, h.max, h.thr, h.size, h.txs, h.txS, h.txR, h.pfbS, h.pfbR, h.pfbs, h.blobs⟩

theorem exportSquare_state {b b' : Builder} {sq : List Bytes} (h : b.exportSquare = .ok (b', sq)) :
    b' = b ∨ b' = { b with
      blobs := b.blobs.mergeSort elemLe
      pfbs := patchAll b.thr (b.txCounter.size + b.pfbCounter.size) (b.blobs.mergeSort elemLe) b.pfbs
      done := true } := by
  obtain ⟨⟨upd, sq'⟩, hcore, hrest⟩ := res_bind_ok' h
  rcases exportCore_ok hcore with ⟨_, _, rfl, _⟩ | ⟨_, st, _, _, hloop, rfl, _⟩
  · cases hrest; exact Or.inl rfl
  · cases hrest
    rw [blobLoop_pfbs _ _ _ _ _ hloop]
    exact Or.inr rfl

theorem equiv_sorted_patched (b : Builder) (thr cur : Nat) (es : List Element) (d : Bool) :
    Equiv { b with blobs := b.blobs.mergeSort elemLe, pfbs := patchAll thr cur es b.pfbs, done := d } b :=
  ⟨rfl, rfl, rfl, rfl, rfl, rfl, rfl, rfl, patchAll_frame_map thr es cur b.pfbs, mergeSort_elemLe_idem b.blobs⟩

/-- what Go can leave behind when `Export` or a query returns an error: the builder untouched, or
    exported (the error came after the `Export` inside the query), or partially exported: `Export`
    sorts `b.Blobs` in place and records start indexes blob by blob before it fails. -/
def ErrState (b b' : Builder) : Prop :=
  b' = b ∨ (∃ sq, b.exportSquare = .ok (b', sq)) ∨
  ∃ k, b' = { b with
    blobs := b.blobs.mergeSort elemLe
    pfbs := patchAll b.thr (b.txCounter.size + b.pfbCounter.size) ((b.blobs.mergeSort elemLe).take k) b.pfbs }

theorem exported_equiv {b b' : Builder} {sq : List Bytes} (h : b.exportSquare = .ok (b', sq)) : Equiv b' b := by
  rcases exportSquare_state h with rfl | rfl
  · exact Equiv.refl _
  · exact equiv_sorted_patched b _ _ _ true

theorem errState_equiv {b b' : Builder} (h : ErrState b b') : Equiv b' b := by
  rcases h with rfl | ⟨sq, h⟩ | ⟨k, rfl⟩
  · exact Equiv.refl _
  · exact exported_equiv h
  · exact equiv_sorted_patched b _ _ _ b.done

theorem ensureExported_equiv {b b' : Builder} (h : b.ensureExported = .ok b') : Equiv b' b := by
  unfold Builder.ensureExported at h
  split at h
  · cases h; exact Equiv.refl _
  · obtain ⟨⟨b1, sq⟩, he, h⟩ := res_bind_ok' h
    cases h
    exact exported_equiv he

theorem findTxShareRange_state {b b' : Builder} {i : Int} {x : Nat × Nat}
    (h : b.findTxShareRange i = .ok (b', x)) : b.ensureExported = .ok b' := by
  obtain ⟨b1, he, h⟩ := res_bind_ok' h
  -- the range computation behind the two checks is large: it is only projected away
  rw [he]
  exact congrArg (fun p => Except.ok p.1) (Except.ok.inj (ok_of_guard (ok_of_guard h)))

theorem findBlobStartingIndex_state {b b' : Builder} {p j : Int} {x : Nat}
    (h : b.findBlobStartingIndex p j = .ok (b', x)) : b.ensureExported = .ok b' := by
  obtain ⟨b1, he, h⟩ := res_bind_ok' (ok_of_guard (ok_of_guard (ok_of_guard h)))
  rw [he]
  split at h
  · cases h
  · split at h
    · cases h
    · cases h; rfl

theorem getWrappedPFB_state {b b' : Builder} {i : Int} {x : Proto.IndexWrapper}
    (h : b.getWrappedPFB i = .ok (b', x)) : b.ensureExported = .ok b' := by
  obtain ⟨b1, he, h⟩ := res_bind_ok' (ok_of_guard (ok_of_guard (ok_of_guard h)))
  rw [he]
  split at h
  · cases h
  · cases h; rfl

theorem exportCore_congr {thr : Nat} {cs : Int} {txs : List Bytes} {P P' : List Proto.IndexWrapper}
    {blobs blobs' : List Element} {ts ps : Nat}
    (hs : blobs'.mergeSort elemLe = blobs.mergeSort elemLe)
    (hp : patchAll thr (ts + ps) (blobs.mergeSort elemLe) P = patchAll thr (ts + ps) (blobs.mergeSort elemLe) P') :
    exportCore thr cs txs P' blobs' ts ps = exportCore thr cs txs P blobs ts ps := by
  have hl : P.length = P'.length := by rw [← patchAll_length thr _ _ P, hp, patchAll_length]
  have hloop : blobLoop thr (blobs.mergeSort elemLe) 0 ⟨ts + ps, ts + ps, ts + ps, P', []⟩ =
      blobLoop thr (blobs.mergeSort elemLe) 0 ⟨ts + ps, ts + ps, ts + ps, P, []⟩ := by
    rw [blobLoop_swap thr _ 0 _ _ _ [] P P' hl, ← hp]
    exact (blobLoop_swap thr _ 0 _ _ _ [] P P rfl).symm
  unfold exportCore
  simp only [hs, hloop]

/-- the blob loop writes every index position of `r`'s wrappers (`worstWrappers_covered`), so the values
    `b` holds there do not matter (`patchAll_congr`) -/
theorem exportCore_equiv {b r : Builder} {N : List Bytes} {B : List BlobTx} (h : Equiv b r) (hk : Kept r N B) :
    exportCore b.thr b.currentSize b.txs b.pfbs b.blobs b.txCounter.size b.pfbCounter.size =
    exportCore r.thr r.currentSize r.txs r.pfbs r.blobs r.txCounter.size r.pfbCounter.size := by
  rw [h.thr, h.size, h.txs, counter_size_congr h.txS h.txR, counter_size_congr h.pfbS h.pfbR]
  refine exportCore_congr h.blobs ?_
  have hf := h.pfbs.symm
  rw [hk.pfbs] at hf ⊢
  rw [hk.blobs]
  exact patchAll_congr _ _ _ _ _ hf fun _ _ hp _ hj => worstWrappers_covered r.thr B hp hj

theorem exportSquare_equiv {b r : Builder} {N : List Bytes} {B : List BlobTx} (h : Equiv b r) (hk : Kept r N B) :
    b.exportSquare.map (·.2) = r.exportSquare.map (·.2) := by
  rw [Builder.exportSquare_map_snd, Builder.exportSquare_map_snd, exportCore_equiv h hk]

inductive Op where
  | tx (t : Bytes)
  | blobTx (bt : BlobTx)
  | export
  | txRange (i : Int)
  | blobIdx (p j : Int)
  | blobLen (p j : Int)
  | wrappedPFB (i : Int)
  deriving DecidableEq, Repr

/-- For `Export` and the queries the state the Go method leaves in the receiver. The model's `Res` drops
    the state when the method returns an error; there `err b op` stands for whatever Go leaves behind
    (constrained by `ErrState` in the theorems). -/
def step (err : Builder → Op → Builder) (b : Builder) (op : Op) : Builder :=
  match op with
  | .tx t => (b.appendTx t).1
  | .blobTx bt => (b.appendBlobTx bt).1
  | .export => match b.exportSquare with
    | .ok (b', _) => b'
    | .error _ => err b op
  | .txRange i => match b.findTxShareRange i with
    | .ok (b', _) => b'
    | .error _ => err b op
  | .blobIdx p j => match b.findBlobStartingIndex p j with
    | .ok (b', _) => b'
    | .error _ => err b op
  | .blobLen _ _ => b
  | .wrappedPFB i => match b.getWrappedPFB i with
    | .ok (b', _) => b'
    | .error _ => err b op

def run (err : Builder → Op → Builder) (b : Builder) (ops : List Op) : Builder := ops.foldl (step err) b

def accepts (b : Builder) : Op → Bool
  | .tx t => (b.appendTx t).2
  | .blobTx bt => (b.appendBlobTx bt).2
  | _ => false

def acceptedOps (err : Builder → Op → Builder) : Builder → List Op → List Op
  | _, [] => []
  | b, op :: ops =>
    if accepts b op then op :: acceptedOps err (step err b op) ops else acceptedOps err (step err b op) ops

def keptTxs (ops : List Op) : List Bytes := ops.filterMap (fun op => match op with | .tx t => some t | _ => none)

def keptBlobTxs (ops : List Op) : List BlobTx :=
  ops.filterMap (fun op => match op with | .blobTx bt => some bt | _ => none)

def isAppend : Op → Bool
  | .tx _ => true
  | .blobTx _ => true
  | _ => false

theorem run_cons (err : Builder → Op → Builder) (b : Builder) (op : Op) (ops : List Op) :
    run err b (op :: ops) = run err (step err b op) ops := rfl

theorem step_equiv_of_not_accepted (err : Builder → Op → Builder) (herr : ∀ b op, ErrState b (err b op))
    {b : Builder} {op : Op} (h : accepts b op = false) : Equiv (step err b op) b := by
  cases op with
  | tx t => exact appendTx_refused h
  | blobTx bt => exact appendBlobTx_refused h
  | «export» =>
    simp only [step]
    cases he : b.exportSquare with
    | error e => exact errState_equiv (herr b _)
    | ok x => exact exported_equiv he
  | txRange i =>
    simp only [step]
    cases he : b.findTxShareRange i with
    | error e => exact errState_equiv (herr b _)
    | ok x => exact ensureExported_equiv (findTxShareRange_state he)
  | blobIdx p j =>
    simp only [step]
    cases he : b.findBlobStartingIndex p j with
    | error e => exact errState_equiv (herr b _)
    | ok x => exact ensureExported_equiv (findBlobStartingIndex_state he)
  | blobLen p j => exact Equiv.refl b
  | wrappedPFB i =>
    simp only [step]
    cases he : b.getWrappedPFB i with
    | error e => exact errState_equiv (herr b _)
    | ok x => exact ensureExported_equiv (getWrappedPFB_state he)

theorem step_accepted (err : Builder → Op → Builder) {b r : Builder} {N : List Bytes} {B : List BlobTx}
    (h : Equiv b r) (hk : Kept r N B) {op : Op} (ha : accepts b op = true) :
    accepts r op = true ∧ Equiv (step err b op) (step err r op) ∧
    Kept (step err r op) (N ++ keptTxs [op]) (B ++ keptBlobTxs [op]) := by
  cases op with
  | tx t =>
    obtain ⟨hd, he⟩ := appendTx_equiv t h
    have har : (r.appendTx t).2 = true := hd ▸ ha
    exact ⟨har, he, by
      rw [show keptBlobTxs [Op.tx t] = [] from rfl, List.append_nil]; exact ((appendTx_spec r N B t hk).2.1 har).1⟩
  | blobTx bt =>
    have hn : (r.blobs ++ elementsOf r.thr r.pfbs.length bt).Nodup := by
      rw [hk.blobs, hk.pfbs, List.length_map, ← allElements_append]
      exact allElements_nodup r.thr _
    obtain ⟨hd, he⟩ := appendBlobTx_equiv bt h hn
    have har : (r.appendBlobTx bt).2 = true := hd ▸ ha
    exact ⟨har, he, by
      rw [show keptTxs [Op.blobTx bt] = [] from rfl, List.append_nil]
      exact ((appendBlobTx_spec r N B bt hk).2.1 har).1⟩
  | _ => cases ha

/-- `b` is the real state, `r` the reference state, fed the accepted appends only -/
theorem run_invariant (err : Builder → Op → Builder) (herr : ∀ b op, ErrState b (err b op)) :
    ∀ (ops : List Op) (b r : Builder) (N : List Bytes) (B : List BlobTx), Equiv b r → Kept r N B →
    Equiv (run err b ops) (run err r (acceptedOps err b ops)) ∧
    Kept (run err r (acceptedOps err b ops)) (N ++ keptTxs (acceptedOps err b ops))
      (B ++ keptBlobTxs (acceptedOps err b ops)) ∧
    acceptedOps err r (acceptedOps err b ops) = acceptedOps err b ops := by
  intro ops
  induction ops with
  | nil => exact fun b r N B h hk => ⟨h, by rwa [← List.append_nil N, ← List.append_nil B] at hk, rfl⟩
  | cons op ops ih =>
    intro b r N B h hk
    rw [acceptedOps]
    cases ha : accepts b op with
    | true =>
      obtain ⟨har, he, hk1⟩ := step_accepted err h hk ha
      obtain ⟨r1, r2, r3⟩ := ih _ _ _ _ he hk1
      rw [if_pos rfl, acceptedOps, har, r3]
      unfold keptTxs keptBlobTxs at r2 ⊢
      rw [List.append_assoc, List.append_assoc, ← List.filterMap_append, ← List.filterMap_append] at r2
      exact ⟨r1, r2, rfl⟩
    | false =>
      exact ih _ r N B ((step_equiv_of_not_accepted err herr ha).trans h) hk

theorem isAppend_of_accepts {b : Builder} {op : Op} (h : accepts b op = true) : isAppend op = true := by
  cases op with
  | tx _ => rfl
  | blobTx _ => rfl
  | _ => cases h

theorem acceptedOps_sublist (err : Builder → Op → Builder) (ops : List Op) (b : Builder) :
    (acceptedOps err b ops).Sublist (ops.filter isAppend) := by
  induction ops generalizing b with
  | nil => exact List.Sublist.slnil
  | cons op ops ih =>
    rw [acceptedOps]
    split
    · rw [List.filter_cons_of_pos (isAppend_of_accepts ‹_›)]
      exact (ih _).cons_cons op
    · exact (ih _).trans ((List.sublist_cons_self op ops).filter isAppend)

theorem acceptedOps_isAppend (err : Builder → Op → Builder) (ops : List Op) (b : Builder) :
    ∀ op ∈ acceptedOps err b ops, isAppend op = true :=
  fun _ h => (List.mem_filter.mp ((acceptedOps_sublist err ops b).subset h)).2

theorem run_appends_indep (err err' : Builder → Op → Builder) (l : List Op) (b : Builder)
    (h : ∀ op ∈ l, isAppend op = true) : run err b l = run err' b l := by
  induction l generalizing b with
  | nil => rfl
  | cons op l ih =>
    rw [List.forall_mem_cons] at h
    have h1 : step err b op = step err' b op := by
      cases op with
      | tx _ => rfl
      | blobTx _ => rfl
      | _ => cases h.1
    rw [run_cons, h1]
    exact ih _ h.2

theorem export_depends_only_on_accepted_of_kept (err : Builder → Op → Builder)
    (herr : ∀ b op, ErrState b (err b op)) (b0 : Builder) (N : List Bytes) (B : List BlobTx) (hk : Kept b0 N B)
    (ops : List Op) :
    (run err b0 ops).exportSquare.map (·.2) = (run err b0 (acceptedOps err b0 ops)).exportSquare.map (·.2) := by
  obtain ⟨h1, h2, _⟩ := run_invariant err herr ops b0 b0 N B (Equiv.refl b0) hk
  exact exportSquare_equiv h1 h2

/-- (C14) the reference history: a sub-history of `ops` made of appends only, each accepted again on
    replay, ending in the `Kept` state of exactly the accepted transactions -/
theorem accepted_history (err : Builder → Op → Builder) (herr : ∀ b op, ErrState b (err b op))
    (max thr : Nat) (b0 : Builder) (h0 : Builder.new max thr = .ok b0) (ops : List Op) :
    (acceptedOps err b0 ops).Sublist ops ∧
    (∀ op ∈ acceptedOps err b0 ops, isAppend op = true) ∧
    acceptedOps err b0 (acceptedOps err b0 ops) = acceptedOps err b0 ops ∧
    Kept (run err b0 (acceptedOps err b0 ops)) (keptTxs (acceptedOps err b0 ops))
      (keptBlobTxs (acceptedOps err b0 ops)) := by
  obtain ⟨_, h2, h3⟩ := run_invariant err herr ops b0 b0 [] [] (Equiv.refl b0) (kept_new max thr b0 h0).1
  exact ⟨(acceptedOps_sublist err ops b0).trans List.filter_sublist, acceptedOps_isAppend err ops b0, h3,
    by simpa using h2⟩

def errUnchanged : Builder → Op → Builder := fun b _ => b

def errExported : Builder → Op → Builder := fun b _ =>
  match b.exportSquare with
  | .ok (b', _) => b'
  | .error _ => b

theorem errExported_ok (b : Builder) (op : Op) : ErrState b (errExported b op) := by
  unfold errExported
  cases h : b.exportSquare with
  | error e => exact Or.inl rfl
  | ok x => exact Or.inr (Or.inl ⟨x.2, h⟩)

theorem export_depends_only_on_accepted_unchanged (max thr : Nat) (b0 : Builder)
    (h0 : Builder.new max thr = .ok b0) (ops : List Op) :
    (run errUnchanged b0 ops).exportSquare.map (·.2) =
      (run errUnchanged b0 (acceptedOps errUnchanged b0 ops)).exportSquare.map (·.2) :=
  export_depends_only_on_accepted_of_kept errUnchanged (fun _ _ => .inl rfl) b0 [] [] (kept_new max thr b0 h0).1 ops

theorem export_depends_only_on_accepted_exported (max thr : Nat) (b0 : Builder)
    (h0 : Builder.new max thr = .ok b0) (ops : List Op) :
    (run errExported b0 ops).exportSquare.map (·.2) =
      (run errExported b0 (acceptedOps errExported b0 ops)).exportSquare.map (·.2) :=
  export_depends_only_on_accepted_of_kept errExported errExported_ok b0 [] [] (kept_new max thr b0 h0).1 ops

/-- (C14) after any history from a new builder, a second `Export` returns the same square -/
theorem export_twice (err : Builder → Op → Builder) (herr : ∀ b op, ErrState b (err b op))
    (max thr : Nat) (b0 : Builder) (h0 : Builder.new max thr = .ok b0) (ops : List Op)
    (b' : Builder) (sq : List Bytes) (h : (run err b0 ops).exportSquare = .ok (b', sq)) :
    b'.exportSquare.map (·.2) = .ok sq := by
  obtain ⟨h1, h2, _⟩ := run_invariant err herr ops b0 b0 [] [] (Equiv.refl b0) (kept_new max thr b0 h0).1
  rw [exportSquare_equiv ((exported_equiv h).trans h1) h2, ← exportSquare_equiv h1 h2, h]
  rfl

def exBlob (x : UInt8) : Blob := { ns := List.replicate 28 0 ++ [x], data := [1, 2, 3], ver := 0, signer := none }

/-- `blobIdx 2 0` exports again and finds the blob moved from share 2 to share 3; `wrappedPFB 7` is out
    of range; the second blob transaction is refused -/
def exOps : List Op :=
  [.tx [1, 2, 3], .blobTx { tx := [9], blobs := [exBlob 7] }, .export, .txRange 0,
   .tx (List.replicate 600 0), .blobIdx 2 0, .wrappedPFB 7,
   .blobTx { tx := [8], blobs := List.replicate 15 (exBlob 4) },
   .tx [4], .export, .blobLen 3 0]

def exB0 : Builder := { maxSquareSize := 4, thr := 64 }

example : Builder.new 4 64 = .ok exB0 := by rfl

example :
    acceptedOps errUnchanged exB0 exOps =
      [.tx [1, 2, 3], .blobTx { tx := [9], blobs := [exBlob 7] }, .tx (List.replicate 600 0), .tx [4]] ∧
    (run errUnchanged exB0 (exOps.take 3)).pfbs.map (·.shareIndexes) = [[2]] ∧
    (run errUnchanged exB0 (exOps.take 6)).pfbs.map (·.shareIndexes) = [[3]] ∧
    (match (run errUnchanged exB0 exOps).exportSquare with
      | .ok (b, sq) => sq.length == 4 && b.pfbs.map (·.shareIndexes) == [[3]]
      | .error _ => false) = true := by
  decide +kernel

end GoSquare.BuilderHistory
