import GoSquare.Proofs.ExportKept
import GoSquare.Proofs.BuildLoop
import GoSquare.Properties.C15
/-! `Build` and `Construct` return the closed-form square of the kept transactions. -/
namespace GoSquare
open Spec

/-- what the theorems assume of the blob-transaction decoder. `tx.UnmarshalBlobTx` checks the `NewBlob`
    part only; it does not reject blobs in the compact namespaces, which is the known finding KF1
    (hence the `…_on` forms of Proofs/DecLocal.lean). -/
def DecValid (dec : Bytes → Decoded) : Prop := ∀ t bt, dec t = .blobTx bt → ∀ b ∈ bt.blobs, b.BlobValid

/-- The three inequalities are the checks a successful `Export` has passed: the two guards of
    `WriteSquare` and `Export`'s own check that the PFB shares written are at most those counted. The
    theorems about such squares also assume `478 * (max * max) < 4294967296`: see `stream_lt_of_shares`. -/
def IsSquareOf (dec : Bytes → Decoded) (thr : Nat) (N bl : List Bytes) (sq : List Bytes) : Prop :=
  let B := bl.map (decB dec)
  let ss := blobMinSquareSize (closedEstimate thr N B)
  (N = [] ∧ bl = [] ∧ sq = [paddingShare tailPaddingNamespace 0]) ∨
  (¬ (N = [] ∧ bl = []) ∧ sq = squareOf thr N B ss ∧
    (compactSeq txNamespace N).length +
      (compactSeq payForBlobNamespace ((patched thr N B).map (·.marshal))).length ≤
      firstIdx thr (startOf N B) (sortedElems thr B) ∧
    firstIdx thr (startOf N B) (sortedElems thr B) + (region thr (startOf N B) none (sortedElems thr B)).length ≤ ss * ss ∧
    (compactSeq payForBlobNamespace ((patched thr N B).map (·.marshal))).length ≤ pfbShareCount B)

/-- the one-share square of no transaction is the closed form as well (estimate 0, side 1): only what
    treats the empty list apart has to distinguish the two cases -/
theorem IsSquareOf.closedForm {dec : Bytes → Decoded} {thr : Nat} {N bl sq : List Bytes}
    (h : IsSquareOf dec thr N bl sq) :
    let B := bl.map (decB dec)
    let ss := blobMinSquareSize (closedEstimate thr N B)
    sq = squareOf thr N B ss ∧
    (compactSeq txNamespace N).length +
      (compactSeq payForBlobNamespace ((patched thr N B).map (·.marshal))).length ≤
      firstIdx thr (startOf N B) (sortedElems thr B) ∧
    firstIdx thr (startOf N B) (sortedElems thr B) + (region thr (startOf N B) none (sortedElems thr B)).length ≤ ss * ss ∧
    (compactSeq payForBlobNamespace ((patched thr N B).map (·.marshal))).length ≤ pfbShareCount B := by
  rcases h with ⟨hN, hb, hsq⟩ | ⟨_, h⟩
  · -- rewritten to the empty case first: `rfl` on the equation as it stands is slow to check
    rw [hsq, hN, hb, List.map_nil]
    dsimp only
    unfold squareOf patched sortedElems
    rw [show allElements thr [] = [] from rfl, List.mergeSort_nil, patchAll, worstWrappers, List.map_nil, List.map_nil,
      (compactSeq_eq_nil_iff _ _).mpr rfl]
    exact ⟨rfl, Nat.zero_le _, Nat.le_succ 0, Nat.zero_le _⟩
  · exact h

theorem KeptRaw.isSquareOf {dec : Bytes → Decoded} {max thr : Nat} {b : Builder} {N bl : List Bytes}
    (hk : KeptRaw dec max thr b N bl) (hdec : DecValid dec) (hsz : 478 * (max * max) < 4294967296)
    {b' : Builder} {sq : List Bytes} (h : b.exportSquare = .ok (b', sq)) : IsSquareOf dec thr N bl sq := by
  obtain ⟨hkept, rfl, rfl, _, hbl⟩ := hk
  rcases export_kept b N _ hkept (kept_blobs hdec hbl) hsz b' sq h with
    ⟨h1, h2, h3, _⟩ | ⟨h1, g1, _, _, _, _, g2, g3, g4⟩
  · exact Or.inl ⟨h1, List.map_eq_nil_iff.mp h2, h3⟩
  · exact Or.inr ⟨fun hc => h1 ⟨hc.1, by rw [hc.2]; rfl⟩, g1, g2, g3, g4⟩

/-- `Build` returns the kept transactions (ordinary first) and the closed-form square of them -/
theorem build_square (dec : Bytes → Decoded) (hdec : DecValid dec) (txs : List Bytes) (max thr : Nat)
    (hsz : 478 * (max * max) < 4294967296) (sq kept : List Bytes)
    (h : build dec txs max thr = .ok (sq, kept)) :
    ∃ N bl, kept = N ++ bl ∧ (∀ r ∈ N, dec r = .normal) ∧ (∀ r ∈ bl, dec r = .blobTx (decB dec r)) ∧
      closedEstimate thr N (bl.map (decB dec)) ≤ max * max ∧ IsSquareOf dec thr N bl sq := by
  obtain ⟨_, b, N, bl, _, _, _, hexp, rfl, hk, _, _⟩ := build_ok h
  exact ⟨N, bl, rfl, hk.normal, hk.blobTx, hk.fit, hk.isSquareOf hdec hsz hexp⟩

/-- `Construct` keeps every transaction (ordinary ones first) and returns the closed-form square -/
theorem construct_square (dec : Bytes → Decoded) (hdec : DecValid dec) (txs : List Bytes) (max thr : Nat)
    (hsz : 478 * (max * max) < 4294967296) (sq : List Bytes)
    (h : construct dec txs max thr = .ok sq) :
    ∃ N bl, txs = N ++ bl ∧ (∀ r ∈ N, dec r = .normal) ∧ (∀ r ∈ bl, dec r = .blobTx (decB dec r)) ∧
      closedEstimate thr N (bl.map (decB dec)) ≤ max * max ∧ IsSquareOf dec thr N bl sq := by
  obtain ⟨_, b, N, bl, _, _, _, hexp, e, hk⟩ := construct_ok h
  exact ⟨N, bl, e, hk.normal, hk.blobTx, hk.fit, hk.isSquareOf hdec hsz hexp⟩

end GoSquare
