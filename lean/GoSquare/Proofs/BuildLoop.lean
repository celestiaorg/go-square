import GoSquare.Proofs.Builder
/-! The transaction loops of `Build` and of `NewBuilder` with transactions: both end in a builder
    that has kept what they return, and the second is the first on a list that is kept whole. -/
namespace GoSquare

theorem construct_eq (dec : Bytes → Decoded) (txs : List Bytes) (max thr : Nat) :
    construct dec txs max thr = Builder.newWithTxs dec max thr txs >>= fun b => b.exportSquare.map (·.2) := by
  unfold construct
  cases Builder.newWithTxs dec max thr txs with
  | error e => rfl
  | ok b => show (b.exportSquare >>= _) = b.exportSquare.map (·.2); cases b.exportSquare <;> rfl

/-- the blob transaction `dec` decodes `raw` to; the default is never met: the lists this is mapped over
    come with `dec r = .blobTx (decB dec r)` -/
def decB (dec : Bytes → Decoded) (raw : Bytes) : BlobTx :=
  match dec raw with
  | .blobTx bt => bt
  | _ => { tx := [], blobs := [] }

theorem decB_getElem? (dec : Bytes → Decoded) {bl : List Bytes} {p : Nat} {raw : Bytes} (h : bl[p]? = some raw) :
    (bl.map (decB dec))[p]? = some (decB dec raw) :=
  List.getElem?_map.trans (congrArg (Option.map (decB dec)) h)

theorem kept_blobs {P : Blob → Prop} {dec : Bytes → Decoded}
    (hdec : ∀ t bt, dec t = .blobTx bt → ∀ b ∈ bt.blobs, P b) {bl : List Bytes}
    (hb : ∀ r ∈ bl, dec r = .blobTx (decB dec r)) : ∀ t ∈ bl.map (decB dec), ∀ b ∈ t.blobs, P b :=
  List.forall_mem_map.mpr fun r hr => hdec r _ (hb r hr)

theorem mem_ite_snoc {α} {c : Bool} {l : List α} {t r : α} {P : α → Prop} (hl : ∀ r ∈ l, P r) (ht : P t)
    (hr : r ∈ (if c then l ++ [t] else l)) : P r := by
  split at hr
  · rcases List.mem_append.mp hr with hr | hr
    · exact hl r hr
    · rw [List.mem_singleton.mp hr]; exact ht
  · exact hl r hr

theorem Kept.appendBlobTx_dec {dec : Bytes → Decoded} {b : Builder} {n bl : List Bytes}
    (hk : Kept b n (bl.map (decB dec))) (hb : ∀ r ∈ bl, dec r = .blobTx (decB dec r)) {t : Bytes} {bt : BlobTx}
    (hd : dec t = .blobTx bt) :
    decB dec t = bt ∧
    Kept (b.appendBlobTx bt).1 n ((if (b.appendBlobTx bt).2 then bl ++ [t] else bl).map (decB dec)) ∧
    ∀ r ∈ (if (b.appendBlobTx bt).2 then bl ++ [t] else bl), dec r = .blobTx (decB dec r) := by
  have hdb : decB dec t = bt := by simp [decB, hd]
  refine ⟨hdb, ?_, fun r => mem_ite_snoc hb (hdb ▸ hd)⟩
  rw [apply_ite (List.map (decB dec)), List.map_append, List.map_singleton, hdb]
  exact hk.appendBlobTx bt

/-- (C01) the loop of `Build` ends in a builder that has kept exactly the returned lists, sublists of
    the input's ordinary and blob transactions -/
theorem buildLoop_spec (dec : Bytes → Decoded) : ∀ (txs : List Bytes) (b : Builder) (n bl : List Bytes)
    (b' : Builder) (n' bl' : List Bytes),
    Kept b n (bl.map (decB dec)) → (∀ r ∈ bl, dec r = .blobTx (decB dec r)) → (∀ r ∈ n, dec r = .normal) →
    buildLoop dec txs b n bl = .ok (b', n', bl') →
    Kept b' n' (bl'.map (decB dec)) ∧ b'.thr = b.thr ∧ b'.maxSquareSize = b.maxSquareSize ∧
    (∀ r ∈ bl', dec r = .blobTx (decB dec r)) ∧ (∀ r ∈ n', dec r = .normal) ∧
    (∃ kn, kn.Sublist (txs.filter (fun t => dec t == .normal)) ∧ n' = n ++ kn) ∧
    (∃ kb, kb.Sublist (txs.filter (fun t => dec t != .normal)) ∧ bl' = bl ++ kb) := by
  intro txs
  induction txs with
  | nil =>
    intro b n bl b' n' bl' hk hb hn h
    cases h
    exact ⟨hk, rfl, rfl, hb, hn, ⟨[], List.Sublist.refl _, (List.append_nil _).symm⟩,
      ⟨[], List.Sublist.refl _, (List.append_nil _).symm⟩⟩
  | cons t rest ih =>
    intro b n bl b' n' bl' hk hb hn h
    rw [buildLoop] at h
    cases hd : dec t with
    | badBlobTx => rw [hd] at h; cases h
    | normal =>
      rw [hd] at h
      obtain ⟨r1, r2, r3, r4, r5, ⟨kn, hkn, hn'⟩, r7⟩ := ih _ _ _ _ _ _ (hk.appendTx t) hb
        (fun r => mem_ite_snoc hn hd) h
      simp only [List.filter_cons, hd]
      refine ⟨r1, by simpa using r2, by simpa using r3, r4, r5, ?_, r7⟩
      split at hn'
      · exact ⟨t :: kn, hkn.cons_cons t, by rw [hn', List.append_assoc]; rfl⟩
      · exact ⟨kn, hkn.cons t, hn'⟩
    | blobTx bt =>
      rw [hd] at h
      obtain ⟨_, hk1, hb1⟩ := hk.appendBlobTx_dec hb hd
      obtain ⟨r1, r2, r3, r4, r5, r6, ⟨kb, hkb, hb'⟩⟩ := ih _ _ _ _ _ _ hk1 hb1 hn h
      simp only [List.filter_cons, hd]
      refine ⟨r1, by simpa using r2, by simpa using r3, r4, r5, r6, ?_⟩
      split at hb'
      · exact ⟨t :: kb, hkb.cons_cons t, by rw [hb', List.append_assoc]; rfl⟩
      · exact ⟨kb, hkb.cons t, hb'⟩

theorem buildLoop_total (dec : Bytes → Decoded) : ∀ (txs : List Bytes) (b : Builder) (n bl : List Bytes),
    (∀ t ∈ txs, dec t ≠ .badBlobTx) → ∃ r, buildLoop dec txs b n bl = .ok r
  | [], b, n, bl, _ => ⟨_, rfl⟩
  | t :: rest, b, n, bl, h => by
    rw [buildLoop]
    cases hd : dec t with
    | badBlobTx => exact absurd hd (h t List.mem_cons_self)
    | normal => exact buildLoop_total dec rest _ _ _ (fun x hx => h x (List.mem_cons_of_mem t hx))
    | blobTx bt => exact buildLoop_total dec rest _ _ _ (fun x hx => h x (List.mem_cons_of_mem t hx))

/-- the `let (b, ok) := …` of the model read by projections -/
theorem Builder.appendAll_cons (dec : Bytes → Decoded) (t : Bytes) (rest : List Bytes) (b : Builder) (seen : Bool) :
    Builder.appendAll dec (t :: rest) b seen =
      match dec t with
      | .badBlobTx => .error .err
      | .blobTx bt =>
        if (b.appendBlobTx bt).2 then Builder.appendAll dec rest (b.appendBlobTx bt).1 true else .error .err
      | .normal =>
        if seen then .error .err
        else if (b.appendTx t).2 then Builder.appendAll dec rest (b.appendTx t).1 false else .error .err := by
  rw [Builder.appendAll]
  cases dec t <;> rfl

theorem buildLoop_of_appendAll (dec : Bytes → Decoded) : ∀ (txs : List Bytes) (b : Builder) (seen : Bool)
    (n bl : List Bytes) (b' : Builder), Builder.appendAll dec txs b seen = .ok b' →
    ∃ n' bl', txs = n' ++ bl' ∧ (seen = true → n' = []) ∧
      buildLoop dec txs b n bl = .ok (b', n ++ n', bl ++ bl') ∧ (b.done = false → b'.done = false) := by
  intro txs
  induction txs with
  | nil =>
    intro b seen n bl b' h
    cases h
    exact ⟨[], [], rfl, fun _ => rfl, by simp [buildLoop], id⟩
  | cons t rest ih =>
    intro b seen n bl b' h
    rw [Builder.appendAll_cons] at h
    rw [buildLoop]
    cases hd : dec t with
    | badBlobTx => rw [hd] at h; cases h
    | blobTx bt =>
      rw [hd] at h
      simp only at h ⊢
      split at h
      · rename_i ha
        obtain ⟨n', bl', e, hn', hl, hdone⟩ := ih _ true n (bl ++ [t]) b' h
        -- after a blob transaction an ordinary one is an error
        obtain rfl := hn' rfl
        exact ⟨[], t :: bl', by rw [e]; rfl, fun _ => rfl, by simpa [ha] using hl,
          fun _ => hdone (Builder.appendBlobTx_done b bt ha)⟩
      · cases h
    | normal =>
      rw [hd] at h
      simp only at h ⊢
      split at h
      · cases h
      · rename_i hs
        split at h
        · rename_i ha
          obtain ⟨n', bl', e, _, hl, hdone⟩ := ih _ false (n ++ [t]) bl b' h
          exact ⟨t :: n', bl', by rw [e]; rfl, fun hc => absurd hc hs, by simpa [ha] using hl,
            fun _ => hdone (Builder.appendTx_done b t ha)⟩
        · cases h

/-- `Kept` with the blob transactions as raw bytes: adds the configuration and how `dec` classifies the kept -/
structure KeptRaw (dec : Bytes → Decoded) (max thr : Nat) (b : Builder) (N bl : List Bytes) : Prop where
  kept : Kept b N (bl.map (decB dec))
  thr : b.thr = thr
  max : b.maxSquareSize = max
  normal : ∀ r ∈ N, dec r = .normal
  blobTx : ∀ r ∈ bl, dec r = .blobTx (decB dec r)

theorem KeptRaw.fit {dec : Bytes → Decoded} {max thr : Nat} {b : Builder} {N bl : List Bytes}
    (h : KeptRaw dec max thr b N bl) : closedEstimate thr N (bl.map (decB dec)) ≤ max * max := by
  rw [← h.thr, ← h.max]; exact h.kept.fit

theorem KeptRaw.of_loop {dec : Bytes → Decoded} {txs : List Bytes} {max thr : Nat} {b0 b : Builder} {N bl : List Bytes}
    (hnew : Builder.new max thr = .ok b0) (hloop : buildLoop dec txs b0 [] [] = .ok (b, N, bl)) :
    KeptRaw dec max thr b N bl ∧
      N.Sublist (txs.filter (fun t => dec t == .normal)) ∧ bl.Sublist (txs.filter (fun t => dec t != .normal)) := by
  obtain ⟨hk0, ht0, hm0⟩ := kept_new max thr b0 hnew
  obtain ⟨hk, hthr, hmx, hbl, hn, ⟨kn, hkn, rfl⟩, ⟨kb, hkb, rfl⟩⟩ := buildLoop_spec dec txs b0 [] [] b N bl
    hk0 nofun nofun hloop
  exact ⟨⟨hk, hthr.trans ht0, hmx.trans hm0, hn, hbl⟩, hkn, hkb⟩

theorem build_ok {dec : Bytes → Decoded} {txs : List Bytes} {max thr : Nat} {sq kept : List Bytes}
    (h : build dec txs max thr = .ok (sq, kept)) :
    ∃ b0 b N bl b', Builder.new max thr = .ok b0 ∧ buildLoop dec txs b0 [] [] = .ok (b, N, bl) ∧
      b.exportSquare = .ok (b', sq) ∧ kept = N ++ bl ∧ KeptRaw dec max thr b N bl ∧
      N.Sublist (txs.filter (fun t => dec t == .normal)) ∧ bl.Sublist (txs.filter (fun t => dec t != .normal)) := by
  obtain ⟨b0, hnew, h⟩ := res_bind_ok' h
  obtain ⟨⟨b, n, bl⟩, hloop, h⟩ := res_bind_ok' h
  obtain ⟨⟨b2, sq2⟩, hexp, h⟩ := res_bind_ok' h
  cases h
  exact ⟨b0, b, n, bl, b2, hnew, hloop, hexp, rfl, KeptRaw.of_loop hnew hloop⟩

theorem newWithTxs_ok {dec : Bytes → Decoded} {txs : List Bytes} {max thr : Nat} {b : Builder}
    (h : Builder.newWithTxs dec max thr txs = .ok b) :
    ∃ b0 N bl, Builder.new max thr = .ok b0 ∧ buildLoop dec txs b0 [] [] = .ok (b, N, bl) ∧
      txs = N ++ bl ∧ KeptRaw dec max thr b N bl ∧ b.done = false := by
  obtain ⟨b0, hnew, hall⟩ := res_bind_ok' h
  obtain ⟨n, bl, e, _, hloop, hdone⟩ := buildLoop_of_appendAll dec txs b0 false [] [] b hall
  exact ⟨b0, n, bl, hnew, hloop, e, (KeptRaw.of_loop hnew hloop).1, hdone (Builder.new_done hnew)⟩

theorem construct_ok {dec : Bytes → Decoded} {txs : List Bytes} {max thr : Nat} {sq : List Bytes}
    (h : construct dec txs max thr = .ok sq) :
    ∃ b0 b N bl b', Builder.new max thr = .ok b0 ∧ buildLoop dec txs b0 [] [] = .ok (b, N, bl) ∧
      b.exportSquare = .ok (b', sq) ∧ txs = N ++ bl ∧ KeptRaw dec max thr b N bl := by
  obtain ⟨b, hb, h⟩ := res_bind_ok' h
  obtain ⟨⟨b', sq'⟩, hexp, h⟩ := res_bind_ok' h
  cases h
  obtain ⟨b0, N, bl, hnew, hloop, e, hk, _⟩ := newWithTxs_ok hb
  exact ⟨b0, b, N, bl, b', hnew, hloop, hexp, e, hk⟩

end GoSquare
