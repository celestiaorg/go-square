import GoSquare.Proofs.CompactParse
/-! The compact reader on a contiguous sub-range of the specified sequence (C11; the whole sequence, C09, is the
    sub-range `[0, n)`). -/
namespace GoSquare
open Spec

theorem parseDelimiter_varint (n : Nat) (tail : Bytes) (hlt : n < 2 ^ 63) :
    parseDelimiter (uvarint n ++ tail) = .ok (tail, n) := by
  have hlen9 := uvarintLen_le_nine n hlt
  have hlpos := uvarintLen_pos n
  have hlen : (uvarint n ++ tail).length = uvarintLen n + tail.length := by simp [uvarint_length]
  have hmin : uvarintLen n ≤ min 10 (uvarint n ++ tail).length := by rw [hlen]; omega
  unfold parseDelimiter
  rw [if_neg (by omega)]
  simp only
  -- the first ten bytes begin with the whole delimiter
  rw [List.take_append, List.take_of_length_le (by rwa [uvarint_length]), List.append_assoc, readUvarint_uvarint n hlt]
  simp only [sliceFrom]
  rw [if_neg (by omega), if_pos (by omega), res_bind_ok, ← uvarint_length, List.drop_left]

/-- zero fill reads as a unit of length 0: the loop stops there -/
theorem parseDelimiter_zeros (z : Nat) : ∃ r, parseDelimiter (zeros z) = .ok (r, 0) := by
  cases z with
  | zero => exact ⟨[], rfl⟩
  | succ z => exact ⟨zeros z, by simpa [uvarint, zeros, List.replicate_succ] using parseDelimiter_varint 0 (zeros z) (by decide)⟩

/-- what the `fix:` commit for F7 made of `parseDelimiter` -/
theorem parseDelimiter_cut_eq (n L : Nat) (hlt : n < 2 ^ 63) (hL : L < uvarintLen n) :
    parseDelimiter ((uvarint n).take L) = .ok ([], 0) := by
  by_cases hL0 : L = 0
  · subst hL0; rfl
  · have hlen : ((uvarint n).take L).length = L := by
      rw [List.length_take, uvarint_length]; exact Nat.min_eq_left (Nat.le_of_lt hL)
    -- the input is padded to ten bytes with zeros, of which there is at least one
    obtain ⟨m, hm⟩ : ∃ m, 10 - L = m + 1 := ⟨9 - L, by have := uvarintLen_le_nine n hlt; omega⟩
    obtain ⟨v, hv⟩ := readUvarintAux_cut (zeros m) L n 0 0 0 hL (by omega)
    unfold parseDelimiter
    rw [if_neg (by rw [hlen]; exact hL0)]
    simp only [hlen]
    rw [Nat.min_eq_right (by omega), List.take_of_length_le (Nat.le_of_eq hlen), hm, show zeros (m + 1) = 0 :: zeros m from rfl,
      readUvarint, hv]
    simp only
    rw [if_pos (by omega)]

/-- C11. The first disjunct always holds: the proofs use `parseDelimiter_cut_eq`. -/
theorem parseDelimiter_cut (n L : Nat) (hlt : n < 2 ^ 63) (hL : L < uvarintLen n) :
    parseDelimiter ((uvarint n).take L) = .ok ([], 0) ∨ ((uvarint n).take L = [] ∧ parseDelimiter [] = .ok ([], 0)) :=
  Or.inl (parseDelimiter_cut_eq n L hlt hL)

/-- the units that fit completely into the first `L` bytes of their stream -/
def prefixFit : Nat → List Bytes → List Bytes
  | _, [] => []
  | L, u :: us =>
    if uvarintLen u.length + u.length ≤ L then u :: prefixFit (L - (uvarintLen u.length + u.length)) us else []

theorem parseRawData_unit (u rest : Bytes) (fuel : Nat) (acc : List Bytes) (hu : u ≠ []) (hlt : u.length < 2 ^ 63) :
    parseRawData (fuel + 1) (uvarint u.length ++ (u ++ rest)) acc = parseRawData fuel rest (acc ++ [u]) := by
  rw [parseRawData, parseDelimiter_varint _ _ hlt, res_bind_ok]
  simp only
  rw [if_neg (Nat.ne_of_gt (List.length_pos_iff.mpr hu)), if_neg (by simp), List.drop_left, List.take_left]

theorem parseRawData_cut (u : Bytes) (L fuel : Nat) (acc : List Bytes) (hu : u ≠ []) (hlt : u.length < 2 ^ 63)
    (hL : L < uvarintLen u.length + u.length) :
    parseRawData (fuel + 1) ((uvarint u.length ++ u).take L) acc = .ok acc := by
  rw [parseRawData]
  by_cases hdl : uvarintLen u.length ≤ L
  · rw [List.take_append, List.take_of_length_le (by rwa [uvarint_length]), parseDelimiter_varint _ _ hlt, res_bind_ok]
    simp only
    rw [if_neg (Nat.ne_of_gt (List.length_pos_iff.mpr hu)), if_pos (by rw [List.length_take, uvarint_length]; omega)]
  · rw [List.take_append_of_le_length (by rw [uvarint_length]; omega), parseDelimiter_cut_eq _ L hlt (by omega)]
    rfl

/-- C11: from a truncated stream exactly the units complete within it come out. -/
theorem parseRawData_truncated : ∀ (us : List Bytes) (z L fuel : Nat) (acc : List Bytes),
    (∀ u ∈ us, u ≠ [] ∧ u.length < 2 ^ 63) → ((unitStream us ++ zeros z).take L).length + 1 ≤ fuel →
    parseRawData fuel ((unitStream us ++ zeros z).take L) acc = .ok (acc ++ prefixFit L us) := by
  intro us
  induction us with
  | nil =>
    intro z L fuel acc _ hf
    obtain ⟨n, rfl⟩ : ∃ n, fuel = n + 1 := ⟨fuel - 1, by omega⟩
    obtain ⟨r, h⟩ := parseDelimiter_zeros (min L z)
    rw [parseRawData, show unitStream [] = [] from rfl, List.nil_append,
      show (zeros z).take L = zeros (min L z) from List.take_replicate .., h]
    simp [prefixFit, bind, Except.bind]
  | cons u us ih =>
    intro z L fuel acc h hf
    obtain ⟨n, rfl⟩ : ∃ n, fuel = n + 1 := ⟨fuel - 1, by omega⟩
    obtain ⟨hu, hlt⟩ := h u (by simp)
    have hupos : 0 < u.length := List.length_pos_iff.mpr hu
    have hU : (uvarint u.length ++ u).length = uvarintLen u.length + u.length := by rw [List.length_append, uvarint_length]
    rw [unitStream_cons, ← List.append_assoc, List.append_assoc _ _ (zeros z)] at hf ⊢
    rw [prefixFit]
    by_cases hfit : uvarintLen u.length + u.length ≤ L
    · rw [List.take_append, List.take_of_length_le (by rw [hU]; exact hfit), hU] at hf ⊢
      rw [if_pos hfit, List.append_assoc, parseRawData_unit u _ n acc hu hlt,
        ih z _ n (acc ++ [u]) (fun x hx => h x (by simp [hx])) (by rw [List.length_append] at hf; omega),
        List.append_assoc, List.singleton_append]
    · rw [if_neg hfit, List.take_append_of_le_length (by rw [hU]; omega), parseRawData_cut u L n acc hu hlt (by omega),
        List.append_nil]

theorem prefixFit_of_le : ∀ (us : List Bytes) (L : Nat), (unitStream us).length ≤ L → prefixFit L us = us
  | [], _, _ => rfl
  | u :: us, L, h => by
    simp only [unitStream_cons, List.length_append, uvarint_length] at h
    rw [prefixFit, if_pos (by omega), prefixFit_of_le us _ (by omega)]

/-- C09: the whole stream. -/
theorem parseRawData_units (us : List Bytes) (z fuel : Nat) (acc : List Bytes)
    (h : ∀ u ∈ us, u ≠ [] ∧ u.length < 2 ^ 63) (hf : (unitStream us ++ zeros z).length + 1 ≤ fuel) :
    parseRawData fuel (unitStream us ++ zeros z) acc = .ok (acc ++ us) := by
  have := parseRawData_truncated us z (unitStream us ++ zeros z).length fuel acc h (by rwa [List.take_length])
  rwa [List.take_length, prefixFit_of_le us _ (by simp)] at this

theorem unitStarts_sorted : ∀ (us : List Bytes) (pos : Nat),
    (unitStarts pos us).Pairwise (· < ·) ∧ ∀ s ∈ unitStarts pos us, pos ≤ s
  | [], _ => by simp [unitStarts]
  | u :: us, pos => by
    obtain ⟨h1, h2⟩ := unitStarts_sorted us (pos + uvarintLen u.length + u.length)
    have := uvarintLen_pos u.length
    simp only [unitStarts, List.pairwise_cons, List.mem_cons]
    refine ⟨⟨fun s hs => ?_, h1⟩, fun s hs => ?_⟩
    · have := h2 s hs; omega
    · rcases hs with rfl | hs
      · exact Nat.le_refl _
      · have := h2 s hs; omega

theorem find_ge_window : ∀ (S : List Nat) (A B : Nat), S.Pairwise (· < ·) → A ≤ B →
    S.find? (fun x => decide (A ≤ x)) =
      (S.find? (fun x => decide (A ≤ x ∧ x < B))).or (S.find? (fun x => decide (B ≤ x)))
  | [], _, _, _, _ => rfl
  | x :: xs, A, B, hp, hAB => by
    rw [List.pairwise_cons] at hp
    by_cases h1 : A ≤ x
    · by_cases h2 : x < B
      · simp [h1, h2]
      · have : xs.find? (fun x => decide (A ≤ x) && decide (x < B)) = none :=
          List.find?_eq_none.mpr fun a ha => by have := hp.1 a ha; simp; omega
        simp [h1, h2, Nat.le_of_not_lt h2, this]
    · simp [h1, show ¬ B ≤ x by omega, find_ge_window xs A B hp.2 hAB]

/-- the case distinction of `extract_sub` at share `j` -/
theorem resOf_cases (S : List Nat) (hS : S.Pairwise (· < ·)) (j : Nat) :
    (resOf S j = 0 ∧ S.find? (fun s => decide (compactOff j ≤ s)) = S.find? (fun s => decide (compactOff (j + 1) ≤ s))) ∨
    ∃ t, t < compactCap j ∧ S.find? (fun s => decide (compactOff j ≤ s)) = some (compactOff j + t) ∧
      resOf S j = compactHdr j + t := by
  have hf := find_ge_window S (compactOff j) (compactOff (j + 1)) hS (compactOff_mono (Nat.le_succ j))
  rw [compactOff_succ] at hf ⊢
  unfold resOf
  cases hw : S.find? (fun s => decide (compactOff j ≤ s ∧ s < compactOff j + compactCap j)) with
  | none => exact Or.inl ⟨rfl, by rw [hf, hw]; rfl⟩
  | some s =>
    have := List.find?_some hw
    simp only [decide_eq_true_eq] at this
    obtain ⟨t, rfl⟩ : ∃ t, s = compactOff j + t := ⟨s - compactOff j, by omega⟩
    exact Or.inr ⟨t, by omega, by rw [hf, hw]; rfl, by simp only [Nat.add_sub_cancel_left]⟩

theorem extract_found (ns : Bytes) (hc : CompactNs ns) (D : Bytes) (S : List Nat) : ∀ (l : List Nat),
    extractRawData (l.map (specShare ns D S)) true = .ok (l.map (compactPayload D)).flatten
  | [] => rfl
  | i :: l => by
    rw [List.map_cons, extractRawData]
    simp only [Bool.not_true, Bool.false_eq_true, if_false, extract_found ns hc D S l, res_bind_ok, List.map_cons,
      List.flatten_cons, specShare_rawData ns hc D S i]

/-- C11: from shares `[j, j+m)` of a specified sequence of `n` shares the reader collects nothing up to the first
    unit start at or after the beginning of share `j`, then every payload byte to the end of share `j+m-1`. -/
theorem extract_sub (ns : Bytes) (hc : CompactNs ns) (D : Bytes) (S : List Nat) (hS : S.Pairwise (· < ·)) (n : Nat)
    (hb1 : compactOff (n - 1) < D.length) (hb2 : D.length ≤ compactOff n) :
    ∀ (m j : Nat), j + m ≤ n →
    extractRawData ((List.range' j m).map (specShare ns D S)) false =
      .ok (match S.find? (fun s => decide (compactOff j ≤ s)) with
        | some s => ((padded D n).drop s).take (compactOff (j + m) - s)
        | none => []) := by
  intro m
  induction m with
  | zero =>
    intro j _
    cases hf : S.find? (fun s => decide (compactOff j ≤ s)) with
    | none => rfl
    | some s =>
      have := List.find?_some hf
      simp only [decide_eq_true_eq] at this
      simp only [List.range'_zero, List.map_nil, extractRawData, Nat.add_zero, Nat.sub_eq_zero_of_le this, List.take_zero]
  | succ m ih =>
    intro j h
    rw [List.range'_succ, List.map_cons, extractRawData]
    simp only [Bool.not_false, if_true, specShare_reserved ns hc D S j, res_bind_ok]
    rcases resOf_cases S hS j with ⟨hz, hf⟩ | ⟨t, ht, hf, hr⟩
    · rw [if_pos hz, hf]
      simp only [List.isEmpty_nil, Bool.not_true, List.nil_append]
      rw [ih (j + 1) (by omega), res_bind_ok, show j + 1 + m = j + (m + 1) by omega]
    · -- enter through the reserved bytes, then collect everything (`extract_found`)
      have hpay : (compactPayload D j).drop t = ((padded D n).drop (compactOff j + t)).take (compactOff (j + 1) - (compactOff j + t)) := by
        rw [payload_window D n j (by omega), List.drop_take, List.drop_drop, compactOff_succ, Nat.add_sub_add_left]
      have hne : (compactPayload D j).drop t ≠ [] :=
        List.ne_nil_of_length_pos (by rw [List.length_drop, compactPayload_length]; exact Nat.sub_pos_of_lt ht)
      rw [hf, hr, if_neg (by have := compactHdr_pos j; omega), Nat.add_sub_cancel_left]
      simp only [List.isEmpty_eq_false_iff.mpr hne, Bool.not_false]
      rw [extract_found ns hc D S, payload_concat D n m (j + 1) (by omega), hpay,
        show j + 1 + m = j + (m + 1) by omega]
      exact congrArg Except.ok (drop_take_append _ (by rw [compactOff_succ]; omega) (compactOff_mono (by omega)))

/-- the shares are not empty and of share version 0, so what the share loop collects goes to the unit-peeling loop -/
theorem parseTxs_specShares (ns : Bytes) (hc : CompactNs ns) (D : Bytes) (S : List Nat) (j m : Nat) (hm : 0 < m) (R : Bytes)
    (hex : extractRawData ((List.range' j m).map (specShare ns D S)) false = .ok R) :
    parseTxs ((List.range' j m).map (specShare ns D S)) = parseRawData (R.length + 1) R [] := by
  obtain ⟨m, rfl⟩ : ∃ m', m = m' + 1 := ⟨m - 1, by omega⟩
  have h2 : ((List.range' j (m + 1)).map (specShare ns D S)).any (fun s => decide (Share.version s ≠ 0)) = false := by
    rw [List.any_eq_false]; intro s hs
    obtain ⟨i, _, rfl⟩ := List.mem_map.mp hs
    simp [specShare_version ns hc D S i]
  unfold parseTxs parseCompactShares
  rw [h2, hex]
  rfl

end GoSquare
