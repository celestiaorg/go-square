import GoSquare.Proofs.BuildSquare
import GoSquare.Proofs.Placement
import GoSquare.Proofs.Patched
import GoSquare.Proofs.SortOrder
/-! # C04 — recorded blob share indexes are truthful and satisfy the alignment rule

On `squareOf`, for every blob of every kept blob transaction: the index recorded in its wrapped
pay-for-blob transaction is where the blob's share encoding appears verbatim, and is a multiple of
the blob's subtree width; blob ranges are disjoint, in namespace order, ties broken by transaction
then blob position. A blob is addressed by write position (`Placed`) or by coordinates (`p`, `j`). -/
namespace GoSquare.C04
open Spec

/-- element `e` is the `k`-th blob in write order and was placed at share index `idx` -/
def Placed (thr : Nat) (N : List Bytes) (B : List BlobTx) (k : Nat) (e : Element) (idx : Nat) : Prop :=
  (sortedElems thr B)[k]? = some e ∧ (placeIdx thr (startOf N B) (sortedElems thr B))[k]? = some idx

theorem Placed.getElem {thr : Nat} {N : List Bytes} {B : List BlobTx} {k : Nat} {e : Element} {idx : Nat}
    (h : Placed thr N B k e idx) :
    ∃ hk : k < (sortedElems thr B).length, (sortedElems thr B)[k] = e ∧
      (placeIdx thr (startOf N B) (sortedElems thr B))[k]'(by rw [placeIdx_length]; exact hk) = idx := by
  obtain ⟨hk, he⟩ := List.getElem?_eq_some_iff.mp h.1
  exact ⟨hk, he, (List.getElem?_eq_some_iff.mp h.2).2⟩

theorem every_blob_is_placed (thr : Nat) (N : List Bytes) (B : List BlobTx) (p j : Nat) (t : BlobTx) (bl : Blob)
    (hp : B[p]? = some t) (hj : t.blobs[j]? = some bl) :
    ∃ k idx, Placed thr N B k (newElement bl p j thr) idx := by
  obtain ⟨k, hke⟩ := List.mem_iff_getElem?.mp
    ((sortedElems_perm thr B).mem_iff.mpr (allElements_complete thr B p j t bl hp hj))
  have hk : k < (placeIdx thr (startOf N B) (sortedElems thr B)).length := by
    rw [placeIdx_length]; exact (List.getElem?_eq_some_iff.mp hke).1
  exact ⟨k, _, hke, List.getElem?_eq_getElem hk⟩

/-- **C04 (truthful, aligned)**, by write position. `patched` are the wrappers marshalled into the
    square's pay-for-blob shares. -/
theorem recorded_index_is_truthful (thr : Nat) (N : List Bytes) (B : List BlobTx) (ss : Nat)
    (hv : ∀ t ∈ B, ∀ bl ∈ t.blobs, bl.BlobValid)
    (h1 : (compactSeq txNamespace N).length +
        (compactSeq payForBlobNamespace ((patched thr N B).map (·.marshal))).length ≤
        firstIdx thr (startOf N B) (sortedElems thr B))
    (k : Nat) (e : Element) (idx : Nat) (hpl : Placed thr N B k e idx) :
    (∃ iw t, (patched thr N B)[e.pfbIndex]? = some iw ∧ B[e.pfbIndex]? = some t ∧ iw.tx = t.tx ∧
      iw.typeId = indexWrapperTypeId ∧ iw.shareIndexes.length = t.blobs.length ∧
      iw.shareIndexes[e.blobIndex]? = some (u32 idx)) ∧
    ((squareOf thr N B ss).drop idx).take e.numShares = sparseSeq e.blob ∧
    e.numShares = (sparseSeq e.blob).length ∧
    idx % subTreeWidth e.numShares thr = 0 := by
  obtain ⟨hk, rfl, rfl⟩ := hpl.getElem
  exact ⟨patched_records thr N B k _ _ hpl.1 hpl.2, squareOf_blob_at thr N B ss hv h1 k hk,
    (eok_sortedElems thr B hv _ (List.getElem_mem hk)).2, placeIdx_aligned' thr _ _ k hk⟩

/-- **C04 (disjoint, ordered).** Of two blobs of `squareOf`, the one written earlier ends before the
    other begins and has the smaller or equal namespace; among equal namespaces the smaller
    (transaction, blob) position. No premise. -/
theorem ranges_disjoint_and_ordered (thr : Nat) (N : List Bytes) (B : List BlobTx)
    (k1 k2 : Nat) (e1 e2 : Element) (i1 i2 : Nat) (hlt : k1 < k2)
    (h1 : Placed thr N B k1 e1 i1) (h2 : Placed thr N B k2 e2 i2) :
    i1 + e1.numShares ≤ i2 ∧ cmpBytes e1.blob.ns e2.blob.ns ≤ 0 ∧
    (e1.blob.ns = e2.blob.ns →
      (e1.pfbIndex < e2.pfbIndex ∨ (e1.pfbIndex = e2.pfbIndex ∧ e1.blobIndex < e2.blobIndex))) := by
  obtain ⟨hk1, rfl, rfl⟩ := h1.getElem
  obtain ⟨hk2, rfl, rfl⟩ := h2.getElem
  exact ⟨placeIdx_ordered thr _ _ k1 k2 hlt hk2,
    List.pairwise_iff_getElem.mp (sortedElems_sorted thr B) k1 k2 hk1 hk2 hlt,
    List.pairwise_iff_getElem.mp (sortedElems_stable thr B) k1 k2 hk1 hk2 hlt⟩

/-- **C04, by coordinates.** For blob `j` of kept blob transaction `p`, the `p`-th wrapper of
    `patched` carries the inner transaction and records at position `j` the index the blob was
    placed at. No premise. -/
theorem index_recorded (thr : Nat) (N : List Bytes) (B : List BlobTx) (p j : Nat) (t : BlobTx) (b : Blob)
    (hp : B[p]? = some t) (hj : t.blobs[j]? = some b) :
    ∃ k idx iw, Placed thr N B k (newElement b p j thr) idx ∧
      (patched thr N B)[p]? = some iw ∧ iw.tx = t.tx ∧ iw.typeId = indexWrapperTypeId ∧
      iw.shareIndexes.length = t.blobs.length ∧ iw.shareIndexes[j]? = some (u32 idx) := by
  obtain ⟨k, idx, hpl⟩ := every_blob_is_placed thr N B p j t b hp hj
  obtain ⟨iw, t', r1, r2, r3, r4, r5, r6⟩ := patched_records thr N B k _ idx hpl.1 hpl.2
  rw [show B[p]? = some t' from r2] at hp
  cases hp
  exact ⟨k, idx, iw, hpl, r1, r3, r4, r5, r6⟩

/-- `index_recorded`, and for blob-valid blobs, `h1` being the first inequality `Export` checks: the
    blob's shares sit verbatim at that index of `squareOf`, a multiple of its subtree width. -/
theorem blob_recorded (thr : Nat) (N : List Bytes) (B : List BlobTx) (ss : Nat)
    (hv : ∀ t ∈ B, ∀ bl ∈ t.blobs, bl.BlobValid)
    (h1 : (compactSeq txNamespace N).length +
        (compactSeq payForBlobNamespace ((patched thr N B).map (·.marshal))).length ≤
        firstIdx thr (startOf N B) (sortedElems thr B))
    (p j : Nat) (t : BlobTx) (b : Blob) (hp : B[p]? = some t) (hj : t.blobs[j]? = some b) :
    ∃ k idx iw, Placed thr N B k (newElement b p j thr) idx ∧
      (patched thr N B)[p]? = some iw ∧ iw.tx = t.tx ∧ iw.typeId = indexWrapperTypeId ∧
      iw.shareIndexes.length = t.blobs.length ∧ iw.shareIndexes[j]? = some (u32 idx) ∧
      ((squareOf thr N B ss).drop idx).take (sparseSeq b).length = sparseSeq b ∧
      idx % subTreeWidth (sparseSeq b).length thr = 0 := by
  obtain ⟨k, idx, iw, hpl, r⟩ := index_recorded thr N B p j t b hp hj
  obtain ⟨_, r7, r8, r9⟩ := recorded_index_is_truthful thr N B ss hv h1 k _ idx hpl
  have r8' : (newElement b p j thr).numShares = (sparseSeq b).length := r8
  rw [r8'] at r7 r9
  exact ⟨k, idx, iw, hpl, r.1, r.2.1, r.2.2.1, r.2.2.2.1, r.2.2.2.2, r7, r9⟩

/-- **C04 on `Construct`**; `p` counts among the blob transactions. -/
theorem construct_indexes (dec : Bytes → Decoded) (hdec : DecValid dec) (txs : List Bytes) (max thr : Nat)
    (hsz : 478 * (max * max) < 4294967296) (sq : List Bytes) (h : construct dec txs max thr = .ok sq) :
    ∃ N bl, txs = N ++ bl ∧
      ∀ (p j : Nat) (raw : Bytes) (b : Blob), bl[p]? = some raw → (decB dec raw).blobs[j]? = some b →
        ∃ k idx iw, Placed thr N (bl.map (decB dec)) k (newElement b p j thr) idx ∧
          (patched thr N (bl.map (decB dec)))[p]? = some iw ∧ iw.tx = (decB dec raw).tx ∧
          iw.shareIndexes[j]? = some (u32 idx) ∧
          (sq.drop idx).take (sparseSeq b).length = sparseSeq b ∧
          idx % subTreeWidth (sparseSeq b).length thr = 0 := by
  obtain ⟨N, bl, e, _, hbl, _, hsq⟩ := construct_square dec hdec txs max thr hsz sq h
  refine ⟨N, bl, e, ?_⟩
  intro p j raw b hp hj
  obtain ⟨hsqe, g1, _⟩ := hsq.closedForm
  obtain ⟨k, idx, iw, hpl, r1, r3, _, _, r6, r7, r9⟩ := blob_recorded thr N (bl.map (decB dec)) _
    (kept_blobs hdec hbl) g1 p j _ b (decB_getElem? dec hp) hj
  exact ⟨k, idx, iw, hpl, r1, r3, r6, by rw [hsqe]; exact r7, r9⟩

end GoSquare.C04
