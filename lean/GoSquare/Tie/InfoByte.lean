import GoSquare.Tie.Basic
import GoSquare.Model.Share
/-! Source tie for share/info_byte.go (C10: the info byte). -/
namespace GoSquare.Tie

theorem infoByte_lt (v : Nat) (s : Bool) (hv : v ≤ 127) : (v * 2 + if s then 1 else 0) < 256 := by
  split <;> omega

/-- for a version up to 127 the two `uint8` operations of `NewInfoByte` (`<< 1`, `+ 1`) do not wrap -/
theorem NewInfoByte_ok (v : Nat) (s : Bool) (hv : v ≤ 127) :
    Src.share.NewInfoByte (v : Int) s = (((v * 2 + if s then 1 else 0 : Nat) : Int), false) := by
  unfold Src.share.NewInfoByte
  rw [if_neg (by simp only [decide_eq_true_eq]; omega), Int.emod_eq_of_lt (b := 256) (by omega) (by omega)]
  cases s
  · rfl
  · simp only [if_true]; rw [Int.emod_eq_of_lt (b := 256) (by omega) (by omega)]; rfl

theorem NewInfoByte_err (v : Nat) (s : Bool) (hv : 127 < v) : Src.share.NewInfoByte (v : Int) s = (0, true) := by
  unfold Src.share.NewInfoByte
  rw [if_pos (by simp only [decide_eq_true_eq]; omega)]

theorem NewInfoByte_tie (v : Nat) (s : Bool) (hv : v < 256) :
    Src.share.NewInfoByte (v : Int) s =
      (match newInfoByte v s with | .ok b => ((b.toNat : Int), false) | .error _ => ((0 : Int), true)) := by
  unfold newInfoByte
  by_cases h : v > 127
  · rw [NewInfoByte_err v s h, if_pos h]
  · rw [NewInfoByte_ok v s (by omega), if_neg h]
    simp only [UInt8.toNat_ofNat', Nat.mod_eq_of_lt (infoByte_lt v s (by omega))]

theorem Version_tie (b : Nat) : Src.share.InfoByte.Version (b : Int) = ((b / 2 : Nat) : Int) := by
  unfold Src.share.InfoByte.Version; simp

theorem IsSequenceStart_tie (b : Nat) : Src.share.InfoByte.IsSequenceStart (b : Int) = (b % 2 == 1) := by
  unfold Src.share.InfoByte.IsSequenceStart
  simp only [show (b : Int) % 2 = 1 ↔ b % 2 = 1 by omega]
  rfl

theorem ParseInfoByte_total (b : Nat) (hb : b < 256) : Src.share.ParseInfoByte (b : Int) = ((b : Int), false) := by
  show Src.share.NewInfoByte (Src.share.InfoByte.Version b) (Src.share.InfoByte.IsSequenceStart b) = _
  rw [Version_tie, IsSequenceStart_tie, NewInfoByte_ok _ _ (by omega)]
  congr 2
  -- `b / 2 * 2 + b % 2 = b`, and the bit is 0 or 1
  have h := Nat.div_add_mod' b 2
  rcases Nat.mod_two_eq_zero_or_one b with h2 | h2
  · rw [h2] at h ⊢; exact h
  · rw [h2] at h ⊢; exact h

end GoSquare.Tie
