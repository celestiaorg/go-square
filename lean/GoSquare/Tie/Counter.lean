import GoSquare.Tie.Counts
import GoSquare.Proofs.Counter
/-! Source tie for share/counter.go (`CompactShareCounter`, C13 / C06 / C01). -/
namespace GoSquare.Tie

/-- the model's counter state as the translated struct -/
def up (c : Counter) : Src.share.CompactShareCounter :=
  { lastShares := c.lastShares, lastRemainder := c.lastRemainder, shares := c.shares, remainder := c.remainder }

/-- the pending share is not full (all that `Add_tie` uses) -/
def OKcur (c : Counter) : Prop := (c.shares = 0 → c.remainder < 474) ∧ c.remainder < 478

/-- `OKcur c.revert`: the same for the remembered state, which `Revert` restores -/
def OKlast (c : Counter) : Prop := (c.lastShares = 0 → c.lastRemainder < 474) ∧ c.lastRemainder < 478

/-- The invariant of the reachable states. The remembered half is needed because `Revert` makes the remembered
    fields current: `{lastShares := 0, lastRemainder := 500, shares := 0, remainder := 0}` satisfies `OKcur`, its
    `revert` does not. -/
def OK (c : Counter) : Prop := OKcur c ∧ OKlast c

theorem OKcur_iff_At (c : Counter) : OKcur c ↔ ∃ T, c.At T := by
  constructor
  · intro ⟨h1, h2⟩
    by_cases hs : c.shares = 0
    · exact ⟨c.remainder, by rw [Counter.At, posOf_of_lt (h1 hs)]; exact ⟨hs, rfl⟩⟩
    · obtain ⟨s', hs'⟩ := Nat.exists_eq_add_one_of_ne_zero hs
      refine ⟨474 + (478 * s' + c.remainder), ?_⟩
      rw [Counter.At, posOf_add, Nat.mul_add_div (by decide), Nat.mul_add_mod, Nat.div_eq_of_lt h2, Nat.mod_eq_of_lt h2,
        hs']
      exact ⟨Nat.add_comm .., rfl⟩
  · rintro ⟨T, h1, h2⟩
    rw [OKcur, h1, h2]
    exact ⟨posOf_first_lt T, posOf_rem_lt T⟩

theorem OKcur_of_At {c : Counter} {T : Nat} (h : c.At T) : OKcur c := (OKcur_iff_At c).2 ⟨T, h⟩

theorem OK_of_At {c : Counter} {T T' : Nat} (h : c.At T)
    (hl : c.lastShares = (posOf T').1 ∧ c.lastRemainder = (posOf T').2) : OK c :=
  ⟨OKcur_of_At h, OKcur_of_At (c := c.revert) hl⟩

theorem OK_init : OK {} := by
  unfold OK OKcur OKlast; simp

/-- Model and code are the same three phases, on naturals and on integers. The seven paths are split by the decisions
    the model takes (`hs`, `hA`, `hB`, `hC`); on a path these say that none of the model's subtractions truncates, so
    `simp only` can pull every cast out of the translated code (`← Int.natCast_sub` is conditional: its side
    conditions are the decisions, `hr`, `hre`) and both sides evaluate alike. A blind `split` of the translated code
    is far slower to check. -/
theorem Add_tie (c : Counter) (d : Nat) (hd : d < 2 ^ 63) (hc : OK c) :
    Src.share.CompactShareCounter.Add (up c) (d : Int) = (up (c.add d).1, (c.add d).2) := by
  obtain ⟨⟨h1, h2⟩, -⟩ := hc
  obtain ⟨ls, lr, s, r⟩ := c
  unfold Src.share.CompactShareCounter.Add Counter.add Counter.advance up
  rw [Int.emod_eq_of_lt (b := 18446744073709551616) (by omega) (by omega), delimLen_tie, ← Int.natCast_add]
  generalize d + uvarintLen d = e
  by_cases hs : s = 0
  · have hr : r ≤ 474 := Nat.le_of_lt (h1 hs)
    by_cases hA : e ≥ 474 - r
    · by_cases hB : e - (474 - r) ≥ 478 - 0
      · by_cases hC : e - (474 - r) - (478 - 0) > 0
        · simp only [hs, hr, hA, hB, hC, Nat.zero_le, decide_eq_true_eq, Bool.and_eq_true, ↓reduceIte, ← Int.cast_ofNat_Int, Int.ofNat_le, Int.ofNat_lt, Int.natCast_inj, ← Int.natCast_sub,
            ← Int.natCast_add, Int.natCast_tdiv_eq_ediv, tmod_cast, ← Int.natCast_ediv, ← Int.natCast_emod]
        · simp only [hs, hr, hA, hB, hC, Nat.zero_le, decide_eq_true_eq, Bool.and_eq_true, ↓reduceIte, ← Int.cast_ofNat_Int, Int.ofNat_le, Int.ofNat_lt, Int.natCast_inj, ← Int.natCast_sub,
            ← Int.natCast_add]
      · simp only [hs, hr, hA, hB, Nat.zero_le, Nat.lt_irrefl, decide_eq_true_eq, Bool.and_eq_true, ↓reduceIte, ← Int.cast_ofNat_Int, Int.ofNat_le, Int.ofNat_lt, Int.natCast_inj,
          ← Int.natCast_sub, ← Int.natCast_add]
    · have hre : r + e ≤ 478 := by omega
      have hB : ¬ (0 ≥ 478 - (r + e)) := by omega
      simp only [hs, hr, hA, hB, hre, Nat.lt_irrefl, decide_eq_true_eq, Bool.and_eq_true, ↓reduceIte, ← Int.cast_ofNat_Int, Int.ofNat_le, Int.ofNat_lt, Int.natCast_inj, ← Int.natCast_sub,
        ← Int.natCast_add]
  · have hr : r ≤ 478 := Nat.le_of_lt h2
    by_cases hB : e ≥ 478 - r
    · by_cases hC : e - (478 - r) > 0
      · simp only [hs, hr, hB, hC, decide_eq_true_eq, Bool.and_eq_true, ↓reduceIte,
          ← Int.cast_ofNat_Int, Int.ofNat_le, Int.ofNat_lt, Int.natCast_inj, ← Int.natCast_sub, ← Int.natCast_add,
          Int.natCast_tdiv_eq_ediv, tmod_cast, ← Int.natCast_ediv, ← Int.natCast_emod]
      · simp only [hs, hr, hB, hC, decide_eq_true_eq, Bool.and_eq_true, ↓reduceIte,
          ← Int.cast_ofNat_Int, Int.ofNat_le, Int.ofNat_lt, Int.natCast_inj, ← Int.natCast_sub, ← Int.natCast_add]
    · simp only [hs, hr, hB, Nat.lt_irrefl, decide_eq_true_eq, Bool.and_eq_true, ↓reduceIte,
        ← Int.cast_ofNat_Int, Int.ofNat_le, Int.ofNat_lt, Int.natCast_inj, ← Int.natCast_sub, ← Int.natCast_add]

theorem Revert_tie (c : Counter) : Src.share.CompactShareCounter.Revert (up c) = up c.revert := rfl

theorem CounterSize_tie (c : Counter) : Src.share.CompactShareCounter.Size (up c) = (up c, (c.size : Int)) := by
  unfold Src.share.CompactShareCounter.Size Counter.size up
  simp only [decide_eq_true_eq, Int.natCast_eq_zero]
  split <;> rfl

theorem Remainder_tie (c : Counter) :
    Src.share.CompactShareCounter.Remainder (up c) = (up c, (c.remainder : Int)) := rfl

/-- the remembered state is the old current state -/
theorem Add_OK (c : Counter) (d : Nat) (hc : OK c) : OK (c.add d).1 := by
  obtain ⟨T, hT⟩ := (OKcur_iff_At c).1 hc.1
  exact ⟨OKcur_of_At (Counter.add_at c T d hT).1, hc.1⟩

/-- what the `last*` half of `OK` is for -/
theorem Revert_OK (c : Counter) (hc : OK c) : OK c.revert := ⟨hc.2, hc.2⟩

end GoSquare.Tie
