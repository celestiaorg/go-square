import GoSquare.Tie.Basic
import GoSquare.Model.Builder
/-! Source tie for the integer projection of builder.go (`Builder.canFit`, `CurrentSize`,
    `SubtreeRootThreshold`, `Element.maxShareOffset`: the acceptance decision of C06 / C01) and of
    share/range.go (`Range`). Structs are translated as their integer and boolean fields only. -/
namespace GoSquare.Tie

/-- the model's builder, seen through the integer fields of the Go struct -/
def upB (b : Builder) : Src.square.Builder :=
  { maxSquareSize := b.maxSquareSize, currentSize := b.currentSize, done := b.done, subtreeRootThreshold := b.thr }

def upE (e : Element) : Src.square.Element :=
  { PfbIndex := e.pfbIndex, BlobIndex := e.blobIndex, NumShares := e.numShares, MaxPadding := e.maxPadding }

/-- a pointer-receiver method is translated as returning the struct as well -/
theorem canFit_tie (b : Builder) (n : Int) :
    Src.square.Builder.canFit (upB b) n = (upB b, b.canFit n) := by
  unfold Src.square.Builder.canFit Builder.canFit upB
  have e : ((b.maxSquareSize : Int) * (b.maxSquareSize : Int)) = ((b.maxSquareSize * b.maxSquareSize : Nat) : Int) := by
    rfl
  rw [e]

theorem CurrentSize_tie (b : Builder) : Src.square.Builder.CurrentSize (upB b) = (upB b, b.currentSize) := rfl

theorem SubtreeRootThreshold_tie (b : Builder) :
    Src.square.Builder.SubtreeRootThreshold (upB b) = (upB b, (b.thr : Int)) := rfl

theorem maxShareOffset_tie (e : Element) :
    Src.square.Element.maxShareOffset (upE e) = ((e.maxShareOffset : Nat) : Int) := rfl

/-! `share.Range` (end-exclusive share ranges, C12 / C20): facts read off the translated source. -/

theorem Range_Add (a b v : Int) :
    Src.share.Range.Add (Src.share.NewRange a b) v = Src.share.NewRange (a + v) (b + v) := rfl

theorem Range_IsEmpty (a b : Int) : Src.share.Range.IsEmpty (Src.share.NewRange a b) = true ↔ a = 0 ∧ b = 0 := by
  unfold Src.share.Range.IsEmpty Src.share.NewRange
  simp

theorem EmptyRange_IsEmpty : Src.share.Range.IsEmpty Src.share.EmptyRange = true := by decide

end GoSquare.Tie
