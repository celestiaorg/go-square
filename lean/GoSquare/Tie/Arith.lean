import GoSquare.Tie.Basic
import GoSquare.Proofs.Arith
import GoSquare.Proofs.Sqrt
import GoSquare.Properties.C15
/-! Source tie for inclusion/blob_share_commitment_rules.go, square.go (Size, RoundUpPowerOfTwo),
    builder.go (IsPowerOfTwo): the generated definitions equal the model's (C15, and the alignment
    arithmetic C04/C06/C07 rest on). -/
namespace GoSquare.Tie

theorem loop_tie_inclusion : ∀ (fuel r n : Nat),
    Src.inclusion.RoundUpPowerOfTwo.loop1 fuel (r : Int) (n : Int) = ((roundUpPow2Aux fuel r n : Nat) : Int)
  | 0, r, n => rfl
  | fuel + 1, r, n => by
    rw [Src.inclusion.RoundUpPowerOfTwo.loop1, roundUpPow2Aux]
    simp only [decide_eq_true_eq, Int.ofNat_lt]
    split
    · exact loop_tie_inclusion fuel (r * 2) n
    · rfl

/-- `square.RoundUpPowerOfTwo` is a second copy of the same loop -/
theorem square_loop_eq : ∀ (fuel : Nat) (r n : Int),
    Src.square.RoundUpPowerOfTwo.loop1 fuel r n = Src.inclusion.RoundUpPowerOfTwo.loop1 fuel r n
  | 0, _, _ => rfl
  | fuel + 1, r, n => by
    rw [Src.square.RoundUpPowerOfTwo.loop1, Src.inclusion.RoundUpPowerOfTwo.loop1, square_loop_eq fuel]

/-- The model gives the loop 64 iterations, the translation `loopFuel`: up to `2 ^ 63` the 64 suffice for the loop
    to leave through its condition, and then more fuel changes nothing. -/
theorem RoundUpPowerOfTwo_tie (n : Nat) (h : n ≤ 2 ^ 63) :
    Src.inclusion.RoundUpPowerOfTwo (n : Int) = ((roundUpPow2 n : Nat) : Int) := by
  show Src.inclusion.RoundUpPowerOfTwo.loop1 Src.Prims.loopFuel ((1 : Nat) : Int) ↑n = _
  rw [loop_tie_inclusion, show Src.Prims.loopFuel = 64 + (Src.Prims.loopFuel - 64) by unfold Src.Prims.loopFuel; omega,
    roundUpPow2Aux_stable 64 _ 1 n (C15.roundUp_least_pow2 n h).2.1]
  rfl

theorem square_RoundUpPowerOfTwo_tie (n : Nat) (h : n ≤ 2 ^ 63) :
    Src.square.RoundUpPowerOfTwo (n : Int) = ((roundUpPow2 n : Nat) : Int) := by
  show Src.square.RoundUpPowerOfTwo.loop1 Src.Prims.loopFuel 1 ↑n = _
  rw [square_loop_eq]
  exact RoundUpPowerOfTwo_tie n h

/-- the translated loop leaves through its condition, not through the fuel -/
theorem RoundUpPowerOfTwo_exits (n : Nat) (h : n ≤ 2 ^ 63) :
    ¬ (Src.inclusion.RoundUpPowerOfTwo (n : Int) < (n : Int)) := by
  rw [RoundUpPowerOfTwo_tie n h]
  have := (C15.roundUp_least_pow2 n h).2.1
  omega

/-- the rest of the range of a Go `int`: the loop body never runs -/
theorem RoundUpPowerOfTwo_neg (x : Int) (h : x ≤ 1) : Src.inclusion.RoundUpPowerOfTwo x = 1 := by
  show Src.inclusion.RoundUpPowerOfTwo.loop1 (_ + 1) 1 x = 1
  rw [Src.inclusion.RoundUpPowerOfTwo.loop1, if_neg (by simpa using h)]

theorem RoundUpByMultipleOf_tie (c v : Nat) :
    Src.inclusion.RoundUpByMultipleOf (c : Int) (v : Int) = ((roundUpByMultipleOf c v : Nat) : Int) := by
  unfold Src.inclusion.RoundUpByMultipleOf roundUpByMultipleOf
  simp only [decide_eq_true_eq, Int.natCast_tdiv_eq_ediv, tmod_cast, ← Int.natCast_emod, ← Int.natCast_ediv, Int.natCast_eq_zero]
  split
  · rfl
  · simp only [Int.natCast_mul, Int.natCast_add, Int.cast_ofNat_Int]

theorem getMin_tie (a b : Nat) : Src.inclusion.getMin (a : Int) (b : Int) = ((min a b : Nat) : Int) := by
  unfold Src.inclusion.getMin
  simp only [decide_eq_true_eq]
  split <;> omega

theorem ceilSqrt_tie (n : Nat) : Src.Prims.ceilSqrt (n : Int) = ((ceilSqrtF64 (f64OfNat n) : Nat) : Int) := by
  simp [Src.Prims.ceilSqrt]

theorem BlobMinSquareSize_tie (n : Nat) (h : n ≤ 2 ^ 52) :
    Src.inclusion.BlobMinSquareSize (n : Int) = ((blobMinSquareSize n : Nat) : Int) := by
  unfold Src.inclusion.BlobMinSquareSize blobMinSquareSize
  rw [ceilSqrt_tie, ceilSqrtF64_f64OfNat n h, RoundUpPowerOfTwo_tie _ (ceilSqrt_le n h)]

theorem Size_tie (n : Nat) (h : n ≤ 2 ^ 52) :
    Src.square.Size (n : Int) = ((blobMinSquareSize n : Nat) : Int) := by
  unfold Src.square.Size blobMinSquareSize
  rw [ceilSqrt_tie, ceilSqrtF64_f64OfNat n h, square_RoundUpPowerOfTwo_tie _ (ceilSqrt_le n h)]

theorem SubTreeWidth_tie (n t : Nat) (h : n ≤ 2 ^ 52) :
    Src.inclusion.SubTreeWidth (n : Int) (t : Int) = ((subTreeWidth n t : Nat) : Int) := by
  unfold Src.inclusion.SubTreeWidth subTreeWidth
  have hdiv : n / t ≤ 2 ^ 52 := Nat.le_trans (Nat.div_le_self n t) h
  simp only [decide_eq_true_eq, Int.natCast_tdiv_eq_ediv, tmod_cast, ← Int.natCast_emod, ← Int.natCast_ediv, Int.natCast_eq_zero,
    ne_eq, bne_iff_ne, ← Int.natCast_one, ← Int.natCast_add, ← apply_ite Nat.cast]
  rw [BlobMinSquareSize_tie n h, RoundUpPowerOfTwo_tie _ (by split <;> omega), getMin_tie]

theorem NextShareIndex_tie (c n t : Nat) (h : n ≤ 2 ^ 52) :
    Src.inclusion.NextShareIndex (c : Int) (n : Int) (t : Int) = ((nextShareIndex c n t : Nat) : Int) := by
  unfold Src.inclusion.NextShareIndex nextShareIndex
  rw [SubTreeWidth_tie n t h, RoundUpByMultipleOf_tie]

theorem RoundDownPowerOfTwo_tie (n : Nat) (h : n ≤ 2 ^ 63) :
    Src.inclusion.RoundDownPowerOfTwo (n : Int) =
      (match roundDownPow2 n with | none => ((0 : Int), true) | some v => ((v : Int), false)) := by
  unfold Src.inclusion.RoundDownPowerOfTwo roundDownPow2
  rw [RoundUpPowerOfTwo_tie n h]
  simp only [decide_eq_true_eq, Int.natCast_inj, Int.natCast_nonpos_iff]
  split
  · rfl
  · split <;> rfl

theorem IsPowerOfTwo_tie (n : Nat) : Src.square.IsPowerOfTwo (n : Int) = isPowerOfTwo n := by
  unfold Src.square.IsPowerOfTwo isPowerOfTwo Src.Prims.band
  have e : ((n : Int) - 1).toNat = n - 1 := by omega
  simp only [e, Int.ofNat_eq_natCast, Int.natCast_eq_zero, decide_not]
  rfl

end GoSquare.Tie
