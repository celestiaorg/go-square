import GoSquare.Tie.Mmr
import GoSquare.Properties.C15
/-! C15 on the source: `MerkleMountainRangeSizes` and `RoundDownPowerOfTwo` as translated from the Go
    source satisfy their laws. -/
namespace GoSquare.Tie.Laws
open GoSquare.C15

/-- **C15 on the source (mountain ranges).** For a power-of-two width: no error, and non-increasing powers of two up
    to the width that sum to the total. -/
theorem MerkleMountainRangeSizes_spec (n w : Nat) (hw : Pow2 w) (hn : n < 2 ^ 63) :
    ∃ l : List Nat, Src.inclusion.MerkleMountainRangeSizes (n : Int) (w : Int) = (l.map (fun (x : Nat) => (x : Int)), false) ∧
      (∀ x ∈ l, Pow2 x ∧ x ≤ w) ∧ l.sum = n ∧ l.Pairwise (· ≥ ·) := by
  exact ⟨mmrSizes n w, MerkleMountainRangeSizes_tie n w hn (Nat.pos_of_isPowerOfTwo hw), mmr_spec n w hw (Nat.le_of_lt hn)⟩

/-- **C15 on the source (RoundDownPowerOfTwo).** An error exactly for 0; otherwise the greatest power of two at or
    below the input. -/
theorem RoundDownPowerOfTwo_spec (n : Nat) (h : n ≤ 2 ^ 63) :
    ((Src.inclusion.RoundDownPowerOfTwo (n : Int)).2 = true ↔ n = 0) ∧
    (1 ≤ n → ∃ j, Src.inclusion.RoundDownPowerOfTwo (n : Int) = (((2 ^ j : Nat) : Int), false) ∧ 2 ^ j ≤ n ∧ n < 2 ^ (j + 1)) := by
  obtain ⟨a, b⟩ := roundDown_greatest_pow2 n h
  rw [RoundDownPowerOfTwo_tie n h]
  constructor
  · rw [← a]
    cases roundDownPow2 n <;> simp
  · intro h1
    obtain ⟨j, hj, h2, h3⟩ := b h1
    exact ⟨j, by rw [hj], h2, h3⟩

end GoSquare.Tie.Laws
