import GoSquare.Tie.InfoByte
/-! C10 on the source: the info byte as translated from share/info_byte.go. -/
namespace GoSquare.Tie.Laws

/-- **C10 on the source (info byte).** `NewInfoByte` fails exactly above version 127; otherwise `Version`,
    `IsSequenceStart` and `ParseInfoByte` read its result back. -/
theorem InfoByte_roundtrip (v : Nat) (s : Bool) (hv : v < 256) :
    ((Src.share.NewInfoByte (v : Int) s).2 = true ↔ 127 < v) ∧
    (v ≤ 127 →
      ∃ b : Nat, b < 256 ∧ Src.share.NewInfoByte (v : Int) s = ((b : Int), false) ∧ b = 2 * v + (if s then 1 else 0) ∧
        Src.share.InfoByte.Version (b : Int) = (v : Int) ∧ Src.share.InfoByte.IsSequenceStart (b : Int) = s ∧
        Src.share.ParseInfoByte (b : Int) = ((b : Int), false)) := by
  constructor
  · by_cases h : 127 < v
    · simp only [NewInfoByte_err v s h, h]
    · simp only [NewInfoByte_ok v s (by omega), h, Bool.false_eq_true]
  · intro hle
    have hb := infoByte_lt v s hle
    refine ⟨_, hb, NewInfoByte_ok v s hle, by omega, ?_, ?_, ParseInfoByte_total _ hb⟩
    · rw [Version_tie]
      split <;> omega
    · rw [IsSequenceStart_tie, Nat.mul_add_mod_self_right]
      cases s <;> rfl
end GoSquare.Tie.Laws
