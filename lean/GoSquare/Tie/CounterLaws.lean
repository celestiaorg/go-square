import GoSquare.Tie.Counter
import GoSquare.Properties.C13
/-! C13 on the source, for every history: the counter TRANSLATED FROM share/counter.go, driven by any sequence of
    `Add` / `Revert` calls from `NewCompactShareCounter()`, is at every step the image of the model's counter
    (induction over the history with the invariant `OK`), hence its `Size()` is `CompactSharesNeeded`, also as
    translated, of the effective transactions' length-prefixed total. -/
namespace GoSquare.Tie.Laws
open GoSquare.C13

def srcStep (c : Src.share.CompactShareCounter) : Op → Src.share.CompactShareCounter
  | .add n => (Src.share.CompactShareCounter.Add c (n : Int)).1
  | .revert => Src.share.CompactShareCounter.Revert c

/-- lengths a Go `int` can hold -/
def Bounded (ops : List Op) : Prop := ∀ op ∈ ops, match op with | .add n => n < 2 ^ 63 | .revert => True

theorem srcRun_refines : ∀ (ops : List Op) (c : Counter), Bounded ops → OK c →
    ops.foldl srcStep (up c) = up (ops.foldl step c) ∧ OK (ops.foldl step c) := by
  intro ops
  induction ops with
  | nil => exact fun c _ hc => ⟨rfl, hc⟩
  | cons op ops ih =>
    intro c hb hc
    have hb' : Bounded ops := fun o ho => hb o (List.mem_cons_of_mem _ ho)
    have h0 := hb op (List.mem_cons_self ..)
    rw [List.foldl_cons]
    cases op with
    | add n =>
      rw [show srcStep (up c) (.add n) = up (step c (.add n)) from congrArg Prod.fst (Add_tie c n h0 hc)]
      exact ih _ hb' (Add_OK c n hc)
    | revert => exact ih _ hb' (Revert_OK c hc)

/-- `NewCompactShareCounter()` returns `&CompactShareCounter{}` -/
def srcNew : Src.share.CompactShareCounter := { lastShares := 0, lastRemainder := 0, shares := 0, remainder := 0 }

/-- **C13 on the source, every history.** `Size()` also leaves the counter unchanged. `hlen`: the parameter of
    `CompactSharesNeeded` is a `uint32`. -/
theorem Counter_history (ops : List Op) (hb : Bounded ops) (hlen : total (eff ops) < 2 ^ 32) :
    let c := ops.foldl srcStep srcNew
    Src.share.CompactShareCounter.Size c = (c, Src.share.CompactSharesNeeded (total (eff ops) : Int)) := by
  intro c
  have hc : c = up (run ops) := (srcRun_refines ops {} hb OK_init).1
  rw [hc, CounterSize_tie, (counter_history ops).1, CompactSharesNeeded_tie _ hlen]

/-- non-vacuity: a history with a reverted addition -/
example : Bounded [Op.add 100, .add 400, .revert, .revert, .add 500] := by
  intro op h
  simp only [List.mem_cons, List.mem_nil_iff, or_false] at h
  rcases h with rfl | rfl | rfl | rfl | rfl <;> simp

end GoSquare.Tie.Laws
