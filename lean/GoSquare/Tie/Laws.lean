import GoSquare.Tie.Arith
import GoSquare.Tie.Counts
import GoSquare.Properties.C13
import GoSquare.Proofs.Sparse
import GoSquare.Properties.C15
/-! The laws of C15 and C13, stated directly on the definitions GENERATED from the Go source
    (`Gen/Src.lean`), by rewriting with the source ties. These are the statements a reader can check
    against the Go code; besides the generated definitions they mention `Pow2`, divisibility, the
    encoders' output, and in `SubTreeWidth_spec` and the two inverse laws the model's
    `blobMinSquareSize`, `roundUpPow2` and `availableBytesFrom…Shares`. -/
namespace GoSquare.Tie.Laws
open GoSquare.C15

/-- C15 on the source: the least power of two at or above the input. -/
theorem RoundUpPowerOfTwo_least (n : Nat) (h : n ≤ 2 ^ 63) :
    ∃ r : Nat, Src.inclusion.RoundUpPowerOfTwo (n : Int) = r ∧ Pow2 r ∧ n ≤ r ∧ ∀ p, Pow2 p → n ≤ p → r ≤ p :=
  ⟨roundUpPow2 n, RoundUpPowerOfTwo_tie n h, C15.roundUp_least_pow2 n h⟩

/-- C15 on the source: the least power-of-two side whose square holds `n` shares, the float64 computation
    included. -/
theorem BlobMinSquareSize_least (n : Nat) (h1 : 1 ≤ n) (h : n ≤ 2 ^ 52) :
    ∃ r : Nat, Src.inclusion.BlobMinSquareSize (n : Int) = r ∧ Src.square.Size (n : Int) = r ∧
      Pow2 r ∧ n ≤ r * r ∧ ∀ p, Pow2 p → n ≤ p * p → r ≤ p :=
  ⟨blobMinSquareSize n, BlobMinSquareSize_tie n h, Size_tie n h, C15.minSquare_least n h1 h⟩

/-- C15 on the source: a power of two, at most the minimal square side, and unless capped by it
    `roundUpPow2 ⌈n/t⌉`, which no power of two `v` with `⌈n/v⌉ ≤ t` is below (that it is such a `v` itself:
    `C15.subTreeWidth_spec`). -/
theorem SubTreeWidth_spec (n t : Nat) (hn : 1 ≤ n) (hn52 : n ≤ 2 ^ 52) (ht : 1 ≤ t) :
    ∃ w : Nat, Src.inclusion.SubTreeWidth (n : Int) (t : Int) = w ∧ Pow2 w ∧ w ≤ blobMinSquareSize n ∧
      w = min (roundUpPow2 ((n + t - 1) / t)) (blobMinSquareSize n) ∧
      (∀ v, Pow2 v → (n + v - 1) / v ≤ t → roundUpPow2 ((n + t - 1) / t) ≤ v) := by
  obtain ⟨a, b, c, _, _, d⟩ := C15.subTreeWidth_spec n t hn hn52 ht
  exact ⟨subTreeWidth n t, SubTreeWidth_tie n t hn52, a, b, c, d⟩

/-- C15 on the source: the least multiple of the subtree width at or after the cursor. -/
theorem NextShareIndex_least (cursor n t : Nat) (hn : 1 ≤ n) (hn52 : n ≤ 2 ^ 52) (ht : 1 ≤ t) :
    ∃ i w : Nat, Src.inclusion.NextShareIndex (cursor : Int) (n : Int) (t : Int) = i ∧
      Src.inclusion.SubTreeWidth (n : Int) (t : Int) = w ∧
      w ∣ i ∧ cursor ≤ i ∧ ∀ m, w ∣ m → cursor ≤ m → i ≤ m := by
  have hw := C15.subTreeWidth_pos n t hn hn52 ht
  exact ⟨nextShareIndex cursor n t, subTreeWidth n t, NextShareIndex_tie cursor n t hn52, SubTreeWidth_tie n t hn52,
    C15.nextShareIndex_least cursor n t hw⟩

/-- C15 on the source: `square.IsPowerOfTwo` decides `Pow2`. -/
theorem IsPowerOfTwo_spec (n : Nat) : Src.square.IsPowerOfTwo (n : Int) = true ↔ Pow2 n := by
  rw [IsPowerOfTwo_tie]; exact C15.isPowerOfTwo_spec n

/-- C13 on the source: the predicted share count is the number of shares the sparse encoder produces (both share
    versions). -/
theorem SparseSharesNeeded_is_produced (b : Blob) (hb : b.Valid) :
    ∃ sh, b.toShares = .ok sh ∧
      Src.share.SparseSharesNeededWithSigner (b.data.length : Int) (b.ver == 1) = (sh.length : Int) := by
  obtain ⟨sh, h1, _, h3⟩ := toShares_length b hb
  exact ⟨sh, h1, by rw [SparseSharesNeededWithSigner_tie _ _ hb.dataLt, h3]⟩

/-- an inverse law of the model, read on translated functions that are tied to it below `2^32` -/
theorem inverse_on_source {needS availS : Int → Int} {need avail : Nat → Nat} {n : Nat}
    (hA : availS n = (avail n : Nat)) (hN : ∀ m : Nat, m < 2 ^ 32 → needS m = (need m : Nat))
    (hb : avail n + 1 < 2 ^ 32) (h : need (avail n) = n ∧ need (avail n + 1) = n + 1) :
    needS (availS n) = n ∧ needS (availS n + 1) = n + 1 := by
  rw [hA, ← Int.natCast_one, ← Int.natCast_add, hN _ (by omega), hN _ hb, h.1, h.2]
  exact ⟨rfl, rfl⟩

/-- C13 on the source: n shares hold exactly that many bytes; one byte more needs n + 1. -/
theorem Compact_inverse (n : Nat) (hn : 1 ≤ n) (hb : availableBytesFromCompactShares n + 1 < 2 ^ 32) :
    Src.share.CompactSharesNeeded (Src.share.AvailableBytesFromCompactShares (n : Int)) = n ∧
    Src.share.CompactSharesNeeded (Src.share.AvailableBytesFromCompactShares (n : Int) + 1) = n + 1 :=
  inverse_on_source (AvailableBytesFromCompactShares_tie n) CompactSharesNeeded_tie hb (C13.compact_inverse n hn)

theorem Sparse_inverse (n : Nat) (hn : 1 ≤ n) (hb : availableBytesFromSparseShares n + 1 < 2 ^ 32) :
    Src.share.SparseSharesNeeded (Src.share.AvailableBytesFromSparseShares (n : Int)) = n ∧
    Src.share.SparseSharesNeeded (Src.share.AvailableBytesFromSparseShares (n : Int) + 1) = n + 1 :=
  inverse_on_source (AvailableBytesFromSparseShares_tie n) SparseSharesNeeded_tie hb (C13.sparse_inverse n hn)

/-- non-vacuity, computed on the generated definitions themselves -/
example : Src.share.SparseSharesNeededWithSigner 478 true = 2 ∧ Src.share.SparseSharesNeededWithSigner 478 false = 1
    ∧ Src.share.SparseSharesNeededWithSigner 479 false = 2 ∧ Src.share.CompactSharesNeeded 474 = 1
    ∧ Src.share.CompactSharesNeeded 475 = 2 := by decide

end GoSquare.Tie.Laws
