import GoSquare.Gen.Src
/-! The source tie (`Tie/*.lean`) proves the definitions of `Gen/Src.lean`, translated from the Go source on every
    run, equal to the model definitions the property theorems are about. The translation renders unsigned arithmetic
    as `% 2^w` and Go's `/`, `%` on `int` as `Int.tdiv`, `Int.tmod`; these lemmas remove both on operands in range. -/
namespace GoSquare.Tie

theorem sub_wrap {a b : Nat} {M : Int} (hb : b ≤ a) (ha : (a : Int) < M) :
    ((a : Int) - b) % M = ((a - b : Nat) : Int) := by
  rw [← Int.natCast_sub hb]
  exact Int.emod_eq_of_lt (Int.natCast_nonneg _) (by omega)
theorem tmod_cast (a : Nat) (b : Int) : Int.tmod a b = a % b := Int.tmod_eq_emod_of_nonneg (Int.natCast_nonneg a)

end GoSquare.Tie
