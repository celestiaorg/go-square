import GoSquare.Tie.Basic
/-! Source tie for share/share_sequence.go and share/utils.go (share-count predictions, C13). -/
namespace GoSquare.Tie

/-- The common shape of `CompactSharesNeeded` and `SparseSharesNeededWithSigner` (in `uint32`: the two wrap-arounds),
    both sides as `simp only [decide_eq_true_eq]` leaves the unfolded definitions. -/
theorem sharesNeeded_tie (n first k : Nat) (hk : 2 ≤ k) (h : n < 2 ^ 32) :
    (if (n : Int) = 0 then 0 else if (n : Int) < first then 1 else
        1 + if ((n : Int) - first) % 4294967296 % k > 0 then
              (((n : Int) - first) % 4294967296 / k + 1) % 4294967296
            else ((n : Int) - first) % 4294967296 / k)
      = ((if n = 0 then 0 else if n < first then 1 else
          1 + if (n - first) % k > 0 then (n - first) / k + 1 else (n - first) / k : Nat) : Int) := by
  simp only [Int.natCast_eq_zero, Int.ofNat_lt]
  by_cases h0 : n = 0
  · rw [if_pos h0, if_pos h0]; rfl
  by_cases h1 : n < first
  · rw [if_neg h0, if_pos h1, if_neg h0, if_pos h1]; rfl
  rw [if_neg h0, if_neg h1, sub_wrap (Nat.le_of_not_lt h1) (by omega),
    ← Int.natCast_emod, ← Int.natCast_ediv]
  simp only [Int.natCast_pos]
  -- the incremented quotient does not wrap: `k ≥ 2`
  have hq : (n - first) / k ≤ (n - first) / 2 := Nat.div_le_div_left hk (by omega)
  generalize (n - first) / k = q at hq ⊢
  split
  · rw [Int.emod_eq_of_lt (b := 4294967296) (by omega) (by omega)]; rfl
  · rfl
theorem CompactSharesNeeded_tie (n : Nat) (h : n < 2 ^ 32) :
    Src.share.CompactSharesNeeded (n : Int) = ((compactSharesNeeded n : Nat) : Int) := by
  unfold Src.share.CompactSharesNeeded compactSharesNeeded
  simp only [decide_eq_true_eq]
  exact sharesNeeded_tie n 474 478 (by omega) h

theorem SparseSharesNeededWithSigner_tie (n : Nat) (b : Bool) (h : n < 2 ^ 32) :
    Src.share.SparseSharesNeededWithSigner (n : Int) b = ((sparseSharesNeededWithSigner n b : Nat) : Int) := by
  unfold Src.share.SparseSharesNeededWithSigner sparseSharesNeededWithSigner
  simp only [decide_eq_true_eq]
  have ef : (if b = true then ((478 - 20) % 4294967296 : Int) else 478)
      = ((if b = true then 478 - 20 else 478 : Nat) : Int) := by cases b <;> rfl
  rw [ef]
  exact sharesNeeded_tie n _ 482 (by omega) h

theorem SparseSharesNeeded_tie (n : Nat) (h : n < 2 ^ 32) :
    Src.share.SparseSharesNeeded (n : Int) = ((sparseSharesNeeded n : Nat) : Int) := by
  exact SparseSharesNeededWithSigner_tie n false h

/-- the common shape of the two `AvailableBytesFrom…Shares` -/
theorem availableBytes_tie (n first k : Nat) :
    (if (n : Int) ≤ 0 then 0 else if (n : Int) = 1 then (first : Int) else ((n : Int) - 1) * k + first)
      = ((if n = 0 then 0 else if n = 1 then first else (n - 1) * k + first : Nat) : Int) := by
  rw [apply_ite Nat.cast, apply_ite Nat.cast]
  simp only [Int.natCast_nonpos_iff, ← Int.natCast_one, Int.natCast_inj]
  split
  · rfl
  · rw [Int.natCast_add, Int.natCast_mul, Int.natCast_sub (Nat.pos_of_ne_zero ‹_›)]

theorem AvailableBytesFromCompactShares_tie (n : Nat) :
    Src.share.AvailableBytesFromCompactShares (n : Int) = ((availableBytesFromCompactShares n : Nat) : Int) := by
  unfold Src.share.AvailableBytesFromCompactShares availableBytesFromCompactShares
  simp only [decide_eq_true_eq]
  exact availableBytes_tie n 474 478

theorem AvailableBytesFromSparseShares_tie (n : Nat) :
    Src.share.AvailableBytesFromSparseShares (n : Int) = ((availableBytesFromSparseShares n : Nat) : Int) := by
  unfold Src.share.AvailableBytesFromSparseShares availableBytesFromSparseShares
  simp only [decide_eq_true_eq]
  exact availableBytes_tie n 478 482

/-- the rest of the range of the Go `int` parameter (the two ties above take `n : Nat`) -/
theorem AvailableBytes_neg (x : Int) (h : x ≤ 0) :
    Src.share.AvailableBytesFromCompactShares x = 0 ∧ Src.share.AvailableBytesFromSparseShares x = 0 := by
  unfold Src.share.AvailableBytesFromCompactShares Src.share.AvailableBytesFromSparseShares
  simp only [decide_eq_true_eq, if_pos h, and_self]

theorem delimLen_tie (n : Nat) : Src.share.delimLen (n : Int) = ((uvarintLen n : Nat) : Int) := by
  unfold Src.share.delimLen Src.Prims.uvarintLen
  simp

end GoSquare.Tie
