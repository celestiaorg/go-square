import GoSquare.Tie.Arith
/-! Source tie for inclusion/commitment.go (`MerkleMountainRangeSizes`, C15): the translated loop, run
    with the translator's fuel, ends with `totalSize = 0` (so the fuel is not what ended it) and has
    appended exactly the model's `mmrSizes`. -/
namespace GoSquare.Tie

/-- Fuel `total` is enough: every round takes at least 1 off `totalSize`. `Sum.inr (0, _)` is the exit through the
    loop condition; `Sum.inl` would be the error return from inside the loop. -/
theorem mmr_loop_tie (m : Nat) (hm : 1 ≤ m) : ∀ (fuel total : Nat) (acc : List Int), total ≤ fuel → total < 2 ^ 63 →
    Src.inclusion.MerkleMountainRangeSizes.loop1 fuel (total : Int) (m : Int) acc
      = Sum.inr ((0 : Int), acc ++ (mmrSizesAux fuel total m).map (fun (x : Nat) => (x : Int))) := by
  intro fuel
  induction fuel with
  | zero =>
    intro total acc hf _
    rw [Nat.le_zero.1 hf, C15.mmrSizesAux_zero, List.map_nil,
      List.append_nil]
    rfl
  | succ fuel ih =>
    intro total acc hf hb
    rw [Src.inclusion.MerkleMountainRangeSizes.loop1]
    simp only [decide_eq_true_eq, ne_eq, Int.natCast_eq_zero, Int.ofNat_le, Int.ofNat_lt]
    by_cases h0 : total = 0
    · rw [h0, C15.mmrSizesAux_zero, List.map_nil, List.append_nil]
      rfl
    · obtain ⟨t, _, htt, -, hstep, hor⟩ := C15.mmrSizesAux_succ hm h0 (Nat.le_of_lt hb)
      -- both branches take `t` off `total`, append it and go round again
      have step : Src.inclusion.MerkleMountainRangeSizes.loop1 fuel (((total : Int) - t) % 18446744073709551616) m
            (acc ++ [(t : Int)])
          = Sum.inr ((0 : Int), acc ++ (mmrSizesAux (fuel + 1) total m).map (fun (x : Nat) => (x : Int))) := by
        rw [hstep, sub_wrap htt (by omega), ih (total - t) _ (by omega) (by omega), List.append_assoc]
        rfl
      rw [if_pos h0]
      rcases hor with ⟨hge, rfl⟩ | ⟨hlt, ht, -, -⟩
      · rw [if_pos hge, step]
      · rw [if_neg (Nat.not_le.2 hlt), if_pos hlt, RoundDownPowerOfTwo_tie total (Nat.le_of_lt hb), ht]
        exact step

/-- `2 ^ 63` is the range of `RoundDownPowerOfTwo_tie` (the Go parameter is a `uint64`); with `maxTreeSize = 0` the
    Go loop does not terminate. -/
theorem MerkleMountainRangeSizes_tie (total maxTree : Nat) (ht : total < 2 ^ 63) (hm : 1 ≤ maxTree) :
    Src.inclusion.MerkleMountainRangeSizes (total : Int) (maxTree : Int)
      = ((mmrSizes total maxTree).map (fun (x : Nat) => (x : Int)), false) := by
  unfold Src.inclusion.MerkleMountainRangeSizes mmrSizes
  obtain ⟨g, hg⟩ : ∃ g, Src.Prims.loopFuel = total + g :=
    ⟨Src.Prims.loopFuel - total, by unfold Src.Prims.loopFuel; omega⟩
  simp only [hg, mmr_loop_tie maxTree hm _ total [] (Nat.le_add_right total g) ht, List.nil_append,
    C15.mmrSizesAux_stable hm g total total (Nat.le_refl _) (Nat.le_of_lt ht)]

end GoSquare.Tie
